import UtilModel.Model.Prelude
/-! # Hexadecimal: `hexDigit`, `fixedHex`, `padHex`, and the digits of a number

Hex digit `j` (0 = least significant) of `n` is written `n / 16 ^ j % 16` throughout. -/
namespace U

theorem hexdig_or (a b j : Nat) : (a ||| b) / 16 ^ j % 16 = a / 16 ^ j % 16 ||| b / 16 ^ j % 16 := by
  rw [show (16 : Nat) = 2 ^ 4 from rfl, ← Nat.pow_mul, Nat.or_div_two_pow, Nat.or_mod_two_pow]

theorem hexdig_single (v j k : Nat) (hv : v < 16) : v * 16 ^ j / 16 ^ k % 16 = if k = j then v else 0 := by
  have hp : ∀ e, 0 < 16 ^ e := fun e => Nat.pow_pos (by decide)
  rcases Nat.lt_trichotomy k j with h | rfl | h
  · obtain ⟨d, rfl⟩ : ∃ d, j = k + (d + 1) := ⟨j - k - 1, by omega⟩
    rw [if_neg (by omega), Nat.pow_add, Nat.pow_succ, ← Nat.mul_assoc, Nat.mul_comm v, Nat.mul_assoc,
      Nat.mul_div_cancel_left _ (hp k), ← Nat.mul_assoc, Nat.mul_mod_left]
  · rw [if_pos rfl, Nat.mul_div_cancel _ (hp k), Nat.mod_eq_of_lt hv]
  · obtain ⟨d, rfl⟩ : ∃ d, k = j + (d + 1) := ⟨k - j - 1, by omega⟩
    rw [if_neg (by omega), Nat.pow_add, ← Nat.div_div_eq_div_mul, Nat.mul_div_cancel _ (hp j),
      Nat.div_eq_of_lt (Nat.lt_of_lt_of_le hv (Nat.le_self_pow (by omega) 16))]

theorem hexdig_slice (n a w j : Nat) (h : j < w) : n / 16 ^ a % 16 ^ w / 16 ^ j % 16 = n / 16 ^ (a + j) % 16 := by
  obtain ⟨d, rfl⟩ : ∃ d, w = j + (d + 1) := ⟨w - j - 1, by omega⟩
  rw [Nat.pow_add 16 j, Nat.mod_mul_right_div_self, Nat.pow_succ, Nat.mul_comm, Nat.mod_mul_right_mod,
    Nat.div_div_eq_div_mul, ← Nat.pow_add]

theorem mod_pow_ext (a b m : Nat) (h : ∀ k, k < m → a / 16 ^ k % 16 = b / 16 ^ k % 16) :
    a % 16 ^ m = b % 16 ^ m := by
  induction m with
  | zero => simp [Nat.mod_one]
  | succ m ih =>
    rw [Nat.mod_pow_succ, Nat.mod_pow_succ, ih (fun k hk => h k (by omega)), h m (by omega)]

theorem fixedHex_length (w n : Nat) : (fixedHex w n).length = w := by
  induction w generalizing n with
  | zero => rfl
  | succ w ih => simp [fixedHex, ih]

theorem fixedHex_getElem? (w n k : Nat) (h : k < w) :
    (fixedHex w n)[k]? = some (hexDigit (n / 16 ^ (w - 1 - k) % 16)) := by
  induction w generalizing n k with
  | zero => omega
  | succ w ih =>
    simp only [fixedHex]
    by_cases hk : k < w
    · rw [List.getElem?_append_left (by rw [fixedHex_length]; exact hk), ih _ _ hk]
      have : w + 1 - 1 - k = (w - 1 - k) + 1 := by omega
      rw [this, Nat.pow_succ, Nat.mul_comm, Nat.div_div_eq_div_mul]
    · have : k = w := by omega
      subst this
      rw [List.getElem?_append_right (by rw [fixedHex_length]; omega), fixedHex_length]
      simp

/-- the hex text of a slice of `n`: of the `t` digits of `n`, the `w` digits from digit `s` (most significant
first) on -/
theorem fixedHex_slice (n s w t : Nat) (h : s + w ≤ t) :
    fixedHex w (n / 16 ^ (t - s - w) % 16 ^ w) =
      (List.range' s w).map fun k => hexDigit (n / 16 ^ (t - 1 - k) % 16) := by
  apply List.ext_getElem?
  intro k
  by_cases hk : k < w
  · rw [fixedHex_getElem? _ _ _ hk, hexdig_slice _ _ _ _ (by omega), List.getElem?_map,
      List.getElem?_range' hk, Option.map_some, Nat.one_mul,
      show t - s - w + (w - 1 - k) = t - 1 - (s + k) by omega]
  · rw [List.getElem?_eq_none (by rw [fixedHex_length]; omega),
      List.getElem?_eq_none (by rw [List.length_map, List.length_range']; omega)]

theorem nhexF_le (f k n : Nat) (hk1 : 1 ≤ k) (hn : n < 16 ^ k) : nhexF f n ≤ k := by
  induction f generalizing n k with
  | zero => exact Nat.zero_le k
  | succ f ih =>
    rw [nhexF]
    split
    · exact hk1
    · rcases k with _ | _ | k
      · omega
      · omega
      · have := ih (k + 1) (n / 16) (by omega) (by rw [Nat.pow_succ] at hn; omega)
        omega

theorem nhex_le (k n : Nat) (hk1 : 1 ≤ k) (hn : n < 16 ^ k) : nhex n ≤ k :=
  nhexF_le _ k n hk1 hn

theorem padHex_small (w n : Nat) (hw : 1 ≤ w) (h : n < 16 ^ w) : padHex w n = fixedHex w n := by
  unfold padHex
  rw [Nat.max_eq_left (nhex_le w n hw h)]

theorem padHex_slice (n s w t : Nat) (hw : 1 ≤ w) (h : s + w ≤ t) :
    padHex w (n / 16 ^ (t - s - w) % 16 ^ w) = (List.range' s w).map fun k => hexDigit (n / 16 ^ (t - 1 - k) % 16) := by
  rw [padHex_small w _ hw (Nat.mod_lt _ (Nat.pow_pos (by decide))), fixedHex_slice n s w t h]

theorem hexDigit_lower (v : Nat) (h : v < 16) :
    (48 ≤ hexDigit v ∧ hexDigit v ≤ 57) ∨ (97 ≤ hexDigit v ∧ hexDigit v ≤ 102) := by
  unfold hexDigit; split <;> omega

end U
