import UtilModel.Model.Size
/-! # Size: the formatter in closed form

`withSeps sep cond ds i` writes the digits `ds` with `sep` after each position `cond` selects; it is the vocabulary of
`C13.pretty`. `Shorten`'s loop stops at the first binary unit that does not divide the value (`shortenLoop_spec`), the grouping loop
is `withSeps` (`groupLoop_eq`), hence `format_eq`. -/
namespace U.Size

theorem and_mask (v : Nat) : v &&& Gen.size_shortenMask = v % 1024 := by
  show v &&& 1023 = v % 1024
  exact Nat.and_two_pow_sub_one_eq_mod v 10

theorem shr_shift (v : Nat) : v >>> Gen.size_shortenShift = v / 1024 := by
  show v >>> 10 = v / 1024
  rw [Nat.shiftRight_eq_div_pow]

/-- the loop stops at the first position where the remaining value is not a multiple of 1024 -/
theorem shortenLoop_spec (us : List Bytes) (v : Nat) :
    ∃ j, j ≤ us.length ∧ v = (shortenLoop us v).1 * 1024 ^ j ∧
      (us ++ [Gen.size_shortenLast])[j]? = some (shortenLoop us v).2 ∧
      (j < us.length → (shortenLoop us v).1 % 1024 ≠ 0) := by
  induction us generalizing v with
  | nil => exact ⟨0, by simp, by simp [shortenLoop], by simp [shortenLoop], by simp⟩
  | cons u us ih =>
    unfold shortenLoop
    rw [and_mask, shr_shift]
    by_cases h : v % 1024 ≠ 0
    · rw [if_pos h]
      exact ⟨0, by simp, by simp, by simp, fun _ => h⟩
    · rw [if_neg h]
      obtain ⟨j, hj, hv, h1, h2⟩ := ih (v / 1024)
      refine ⟨j + 1, by simp; omega, ?_, by simpa using h1, fun hlt => h2 (by simp at hlt; omega)⟩
      rw [Nat.pow_succ, ← Nat.mul_assoc, ← hv]; omega

/-- each digit followed by the separator exactly when `cond` of its index holds -/
def withSeps (sep : Bytes) (cond : Nat → Bool) : Bytes → Nat → Bytes
  | [], _ => []
  | d :: ds, i => (if cond i then d :: sep else [d]) ++ withSeps sep cond ds (i + 1)

theorem groupLoop_eq (sep : Bytes) (offset : Nat) (ds : Bytes) (i : Nat) :
    groupLoop sep offset ds i = withSeps sep (fun k => decide ((k + offset) % 3 = 2)) ds i := by
  induction ds generalizing i with
  | nil => rfl
  | cons d ds ih => simp only [groupLoop, withSeps, ih, decide_eq_true_eq]

theorem withSeps_congr (sep : Bytes) (c1 c2 : Nat → Bool) (ds : Bytes) (i : Nat)
    (h : ∀ k, i ≤ k → k < i + ds.length → c1 k = c2 k) : withSeps sep c1 ds i = withSeps sep c2 ds i := by
  induction ds generalizing i with
  | nil => rfl
  | cons d ds ih =>
    simp only [withSeps]
    rw [h i (Nat.le_refl _) (by simp), ih (i + 1) (fun k hk1 hk2 => h k (by omega) (by simp at hk2 ⊢; omega))]

theorem withSeps_nil (cond : Nat → Bool) (ds : Bytes) (i : Nat) : withSeps [] cond ds i = ds := by
  induction ds generalizing i with
  | nil => rfl
  | cons d ds ih => simp [withSeps, ih]

theorem withSeps_length_le (sep : Bytes) (cond : Nat → Bool) (ds : Bytes) (i : Nat) :
    (withSeps sep cond ds i).length ≤ (1 + sep.length) * ds.length := by
  induction ds generalizing i with
  | nil => simp [withSeps]
  | cons d ds ih =>
    have := ih (i + 1)
    simp only [withSeps, List.length_append, List.length_cons, Nat.mul_add, Nat.mul_one]
    split <;> simp <;> omega

/-- `DefaultFormatter`: the shortened value in decimal, every digit that has a multiple of three digits
to its right followed by the separator, then the unit -/
theorem format_eq (buf : Bytes) (s f : Nat) :
    format buf s f = buf ++
      withSeps (separator f) (fun i => decide (((dec (shorten s).1).length - 1 - i) % 3 = 0)) (dec (shorten s).1) 0
      ++ (shorten s).2 := by
  unfold format
  simp only
  rw [groupLoop_eq, withSeps_congr (separator f) _ (fun i => decide (((dec (shorten s).1).length - 1 - i) % 3 = 0))]
  intro k _ hk
  generalize (dec (shorten s).1).length = n at hk ⊢
  -- the code counts positions from the left with an offset, the statement from the right
  have : (k + (3 - n % 3)) % 3 = 2 ↔ (n - 1 - k) % 3 = 0 := by omega
  exact decide_eq_decide.mpr this

end U.Size
