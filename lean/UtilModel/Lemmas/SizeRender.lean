import UtilModel.Spec.SizeJson
import UtilModel.Lemmas.JsonText
import UtilModel.Lemmas.SizeObject
import UtilModel.Lemmas.SizeMembers
/-!
# The parser model on rendered JSON documents: refinement of `evalMembers`

The refinement holds of any text: the member loop computes `evalLoop` of whatever members the decoder reads
(`Reads`, `ReadsMembers`, `objectLoop_reads`). Rendered text is one instance (`readsMembers_render`); what it takes
is that the skip loop, entered with any counter, 0 included, reads a rendered value of any nesting exactly
(`skip_value`, by structural recursion on `JVal`, with the fuel left open).
-/
namespace U.Props.C12
open U.GoJson U.JsonTokens U.Size U.SizeObject

theorem renderElems_cons_append (x : JVal) (xs : List JVal) (rest : Bytes) :
    renderElems (x :: xs) ++ rest = x.render ++ (renderElemsTail xs ++ rest) :=
  List.append_assoc ..

theorem renderMembers_cons_append (k : Bytes) (x : JVal) (ms : List (Bytes × JVal)) (rest : Bytes) :
    renderMembers ((k, x) :: ms) ++ rest = 34 :: (k ++ 34 :: 58 :: (x.render ++ (renderMembersTail ms ++ rest))) := by
  show 34 :: ((k ++ 34 :: 58 :: (x.render ++ renderMembersTail ms)) ++ rest) = _
  simp only [List.append_assoc, List.cons_append]

theorem renderElemsTail_cons (x : JVal) (xs : List JVal) :
    renderElemsTail (x :: xs) = 44 :: renderElems (x :: xs) := rfl

theorem renderMembersTail_cons (k : Bytes) (x : JVal) (ms : List (Bytes × JVal)) :
    renderMembersTail ((k, x) :: ms) = 44 :: renderMembers ((k, x) :: ms) := rfl

theorem wfElems_cons {x : JVal} {xs : List JVal} :
    wfElems (x :: xs) = true ↔ x.wf = true ∧ wfElems xs = true := Bool.and_eq_true_iff

theorem wfMembers_cons {k : Bytes} {x : JVal} {ms : List (Bytes × JVal)} :
    wfMembers ((k, x) :: ms) = true ↔ (plain k = true ∧ x.wf = true) ∧ wfMembers ms = true := by
  show (plain k && x.wf && wfMembers ms) = true ↔ _
  simp only [Bool.and_eq_true]

theorem numEnd_elemsTail (xs : List JVal) (rest : Bytes) : numEnd (renderElemsTail xs ++ 93 :: rest) := by
  cases xs <;> exact numEnd_cons _ (by decide)

theorem numEnd_membersTail (ms : List (Bytes × JVal)) (rest : Bytes) :
    numEnd (renderMembersTail ms ++ 125 :: rest) := by
  cases ms <;> exact numEnd_cons _ (by decide)

mutual
/-- at any counter, 0 included, the skip loop reads a rendered value token by token and goes on behind it -/
theorem skip_value (x : JVal) (hx : x.wf = true) {depth : Nat} {st : TState} {S : List TState} {rest : Bytes}
    {R : Dec} (hst : valueAllowed st = true) (hr : numEnd rest) (h : SkipsOn depth ⟨rest, valueEnd st, S⟩ R) :
    Skips depth ⟨x.render ++ rest, st, S⟩ R :=
  match x, hx with
  | .num _, hx | .str _, hx | .tru, hx | .fls, hx | .null, hx =>
    .step (token_render hx hr hst S) (depthAfter_scalar (by simp [JVal.tok]) _) h
  | .arr [], _ => by
    rw [render_arr_append]
    refine .step (token_open (.inl rfl) hst) (depthAfter_open (.inl rfl) _) ?_
    exact .step (token_arrClose (.inl rfl)) (depthAfter_close (.inl rfl) _) h
  | .arr (x :: xs), hx => by
    replace hx := wfElems_cons.mp hx
    rw [render_arr_append, renderElems_cons_append]
    refine .step (token_open (.inl rfl) hst) (depthAfter_open (.inl rfl) _) ?_
    refine skip_value x hx.1 rfl (numEnd_elemsTail _ _) ?_
    refine skip_elems xs hx.2 ?_
    exact .step (token_arrClose (.inr rfl)) (depthAfter_close (.inl rfl) _) h
  | .obj [], _ => by
    rw [render_obj_append]
    refine .step (token_open (.inr rfl) hst) (depthAfter_open (.inr rfl) _) ?_
    exact .step (token_objClose (.inl rfl)) (depthAfter_close (.inr rfl) _) h
  | .obj ((k, x) :: ms), hx => by
    replace hx := wfMembers_cons.mp hx
    rw [render_obj_append, renderMembers_cons_append]
    refine .step (token_open (.inr rfl) hst) (depthAfter_open (.inr rfl) _) ?_
    refine .step (token_key_plain hx.1.1 _ (.inl rfl) _) (depthAfter_scalar (by simp) _) ?_
    refine .congr (token_colon _ _) ?_
    refine skip_value x hx.1.2 rfl (numEnd_membersTail _ _) ?_
    refine skip_members ms hx.2 ?_
    exact .step (token_objClose (.inr rfl)) (depthAfter_close (.inr rfl) _) h
/-- `,x1,x2…` in front of `]` -/
theorem skip_elems (xs : List JVal) (hx : wfElems xs = true) {depth : Nat} {S : List TState} {rest : Bytes} {R : Dec}
    (h : Skips (depth + 1) ⟨93 :: rest, .arrayComma, S⟩ R) :
    Skips (depth + 1) ⟨renderElemsTail xs ++ 93 :: rest, .arrayComma, S⟩ R :=
  match xs, hx with
  | [], _ => h
  | x :: xs, hx => by
    replace hx := wfElems_cons.mp hx
    rw [renderElemsTail_cons, List.cons_append, renderElems_cons_append]
    refine .congr (token_commaArr _ _) ?_
    refine skip_value x hx.1 rfl (numEnd_elemsTail _ _) ?_
    exact skip_elems xs hx.2 h
/-- `,"k1":x1…` in front of `}` -/
theorem skip_members (ms : List (Bytes × JVal)) (hx : wfMembers ms = true) {depth : Nat} {S : List TState}
    {rest : Bytes} {R : Dec} (h : Skips (depth + 1) ⟨125 :: rest, .objectComma, S⟩ R) :
    Skips (depth + 1) ⟨renderMembersTail ms ++ 125 :: rest, .objectComma, S⟩ R :=
  match ms, hx with
  | [], _ => h
  | (k, x) :: ms, hx => by
    replace hx := wfMembers_cons.mp hx
    rw [renderMembersTail_cons, List.cons_append, renderMembers_cons_append]
    refine .congr (token_commaObj _ _) ?_
    refine .step (token_key_plain hx.1.1 _ (.inr rfl) _) (depthAfter_scalar (by simp) _) ?_
    refine .congr (token_colon _ _) ?_
    refine skip_value x hx.1.2 rfl (numEnd_membersTail _ _) ?_
    exact skip_members ms hx.2 h
end

theorem keyValue_eq : keyValue = Gen.size_ObjectKeyValue := by decide
theorem keyUnit_eq : keyUnit = Gen.size_ObjectKeyUnit := by decide

/-- the three readers of a member value, run on `d1`, treat it as `m` and leave `d2` -/
def Reads (d1 : Dec) (m : MVal) (d2 : Dec) : Prop :=
  decodeValue d1 = (match m with
    | .num lit => parseUintLit lit
    | _ => .err .invalidType).map (·, d2) ∧
  decodeUnit d1 = (match m with
    | .str s => .ok (s, d2)
    | _ => .err .invalidType) ∧
  decodeAndSkipNested d1 = .ok d2

theorem reads_render {x : JVal} (hx : x.wf = true) {rest : Bytes} (hr : numEnd rest) (S : List TState) :
    Reads ⟨58 :: (x.render ++ rest), .objectColon, S⟩ x.abs ⟨rest, .objectComma, S⟩ := by
  refine ⟨?_, ?_, ((skip_value x hx (depth := 0) (st := .objectValue) rfl hr rfl).congr (token_colon _ _)).skipNested rfl⟩
  · unfold decodeValue
    rw [token_colon, token_render hx hr rfl]
    cases x <;> rfl
  · unfold decodeUnit
    rw [token_colon, token_render hx hr rfl]
    cases x <;> rfl

theorem readMember_reads {du : Bool} {k : Bytes} {v : Option Nat} {u : Option Bytes} {d1 d2 : Dec} {m : MVal}
    (hr : Reads d1 m d2) :
    readMember du (lowerKey k) v u d1 = (step du v u (k, m)).map fun p => (p.1, p.2, d2) := by
  obtain ⟨hv, hu, hs⟩ := hr
  unfold readMember step kind
  rw [hv, hu, hs]
  simp only [← keyValue_eq, ← keyUnit_eq, beq_iff_eq]
  by_cases h1 : lowerKey k = keyValue
  · simp only [h1, if_true]
    cases v with
    | some n => rfl
    | none =>
      cases m with
      | num lit =>
        dsimp only
        cases parseUintLit lit <;> rfl
      | _ => rfl
  · simp only [h1, if_false]
    by_cases h2 : lowerKey k = keyUnit
    · simp only [h2, if_true]
      cases u with
      | some n => rfl
      | none => cases m <;> rfl
    · simp only [h2, if_false]
      cases du <;> rfl

/-- the decoder at `d`, where a member or `}` is expected, reads the members `ms` (keys as decoded,
values as the three readers treat them) and stops at `R`, in front of something that is no member -/
inductive ReadsMembers : Dec → List Member → Dec → Prop
  | nil {d} : d.more = false → ReadsMembers d [] d
  | cons {d d1 d2 R k m ms} : d.more = true → d.token = .ok (.str k, d1) → Reads d1 m d2 →
      ReadsMembers d2 ms R → ReadsMembers d ((k, m) :: ms) R

theorem objectLoop_reads {mk : Nat} {du : Bool} {d R : Dec} {ms : List Member} (h : ReadsMembers d ms R)
    (f i : Nat) (v : Option Nat) (u : Option Bytes) (hf : ms.length + 1 ≤ f) :
    objectLoop mk du f i d v u = (evalLoop mk du i v u ms).map (·, R) := by
  induction h generalizing f i v u with
  | nil hm =>
    obtain ⟨f, rfl⟩ := Nat.exists_eq_add_one_of_ne_zero (Nat.ne_zero_of_lt hf)
    simp only [objectLoop, evalLoop, hm, Bool.not_false, if_true, finish_eq]
    split <;> rfl
  | @cons d d1 d2 R k m ms hm ht hr _ ih =>
    obtain ⟨f, rfl⟩ := Nat.exists_eq_add_one_of_ne_zero (Nat.ne_zero_of_lt hf)
    rw [objectLoop_succ, evalLoop]
    split
    · rfl
    · rw [hm, ht]
      simp only [Bool.not_true, Bool.false_eq_true, if_false]
      rw [readMember_reads hr]
      cases step du v u (k, m) with
      | ok p => exact ih f (i + 1) p.1 p.2 (Nat.le_of_succ_le_succ hf)
      | err e => rfl
      | panic => rfl

theorem readsMembers_tail (ms : List (Bytes × JVal)) (hms : wfMembers ms = true) (rest : Bytes) (S : List TState) :
    ReadsMembers ⟨renderMembersTail ms ++ 125 :: rest, .objectComma, S⟩ (absMembers ms)
      ⟨125 :: rest, .objectComma, S⟩ :=
  match ms, hms with
  | [], _ => .nil rfl
  | (k, x) :: ms, hms => by
    replace hms := wfMembers_cons.mp hms
    rw [renderMembersTail_cons, List.cons_append, renderMembers_cons_append]
    exact .cons rfl ((token_commaObj _ _).trans (token_key_plain hms.1.1 _ (.inr rfl) _))
      (reads_render hms.1.2 (numEnd_membersTail ms rest) S) (readsMembers_tail ms hms.2 rest S)

theorem readsMembers_render (ms : List (Bytes × JVal)) (hms : wfMembers ms = true) (rest : Bytes) (S : List TState) :
    ReadsMembers ⟨renderMembers ms ++ 125 :: rest, .objectStart, S⟩ (absMembers ms)
      ⟨125 :: rest, if ms = [] then .objectStart else .objectComma, S⟩ := by
  cases ms with
  | nil => exact .nil rfl
  | cons m ms =>
    obtain ⟨k, x⟩ := m
    replace hms := wfMembers_cons.mp hms
    rw [renderMembers_cons_append, if_neg (List.cons_ne_nil _ _)]
    exact .cons rfl (token_key_plain hms.1.1 _ (.inl rfl) _)
      (reads_render hms.1.2 (numEnd_membersTail ms rest) S) (readsMembers_tail ms hms.2 rest S)

theorem length_le_members (ms : List (Bytes × JVal)) :
    ms.length ≤ (renderMembers ms).length ∧ ms.length ≤ (renderMembersTail ms).length := by
  induction ms with
  | nil => exact ⟨Nat.zero_le _, Nat.zero_le _⟩
  | cons m ms ih =>
    obtain ⟨k, x⟩ := m
    show _ ≤ (34 :: (k ++ 34 :: 58 :: (x.render ++ renderMembersTail ms))).length ∧
      _ ≤ (44 :: 34 :: (k ++ 34 :: 58 :: (x.render ++ renderMembersTail ms))).length
    simp only [List.length_cons, List.length_append]
    omega

theorem unmarshalJSON_renderObject {mk : Nat} {r : Rule} (ms : List (Bytes × JVal)) (hms : wfMembers ms = true)
    (hr : r.jsonObject = true) {ws : Bytes} (hws : allSpace ws = true) :
    unmarshalJSON mk r (renderObject ms ++ ws) = evalMembers mk r.disallowUnknown (absMembers ms) := by
  have hs : renderObject ms ++ ws = 123 :: (renderMembers ms ++ 125 :: ws) := render_obj_append ms ws
  have ht : (Dec.init (renderObject ms ++ ws)).token =
      .ok (.delim 123, ⟨renderMembers ms ++ 125 :: ws, .objectStart, [.topValue]⟩) := by
    rw [hs]
    exact token_open (.inr rfl) rfl
  rw [unmarshalJSON_object ht hr]
  have hf : ms.length + 1 ≤ (renderObject ms ++ ws).length + 2 := by
    have := (length_le_members ms).1
    rw [hs]
    simp only [List.length_cons, List.length_append]
    omega
  rw [objectLoop_reads (readsMembers_render ms hms ws [.topValue]) _ 0 none none (by simpa [absMembers] using hf)]
  unfold evalMembers
  cases evalLoop mk r.disallowUnknown 0 none none (absMembers ms) with
  | err e => rfl
  | panic => rfl
  | ok z =>
    simp only [Outcome.map]
    have hc : Dec.token ⟨125 :: ws, if ms = [] then .objectStart else .objectComma, [.topValue]⟩ =
        .ok (.delim 125, ⟨ws, .topValue, []⟩) := token_objClose (by split <;> simp)
    rw [hc]
    simp only [(expectEOF_ok_iff (d := ⟨ws, .topValue, []⟩) rfl).mpr hws]

/-- the scalar forms on rendered text: a number literal and a string are read by the text rules -/
theorem unmarshalJSON_render_num {mk : Nat} {r : Rule} {lit : Bytes} (hl : intLit lit = true) :
    unmarshalJSON mk r lit = unmarshalText false lit := by
  have ht := token_render (x := .num lit) hl numEnd_nil (st := .topValue) rfl []
  rw [show (JVal.num lit).render ++ [] = lit from List.append_nil lit] at ht
  exact (number_form ht).1 rfl

theorem unmarshalJSON_render_str {mk : Nat} {r : Rule} {s : Bytes} (hs : plain s = true)
    (hr : r.jsonString = true) :
    unmarshalJSON mk r (34 :: (s ++ [34])) = unmarshalText false s := by
  have ht := token_render (x := .str s) hs numEnd_nil (st := .topValue) rfl []
  rw [show (JVal.str s).render ++ [] = 34 :: (s ++ [34]) from List.append_nil _] at ht
  exact (string_form ht hr).1 rfl

end U.Props.C12
