import UtilModel.Model.Prelude
/-! # Decimal codec lemmas

`val` reads a digit string, `fixed w` writes `w` digits, `ndigits` counts them; `dec` and `padDec` are
`fixed` at the right width. Reader and writer are inverse at fixed width (`val_fixed`, `fixed_val`) and,
without leading zeros, at the natural width (`val_dec`, `dec_val_of_noLead0`, `dec_shape`). -/
namespace U

theorem isDigit_range (c : Nat) : isDigit c = true ↔ 48 ≤ c ∧ c ≤ 57 := by
  simp only [isDigit, Bool.and_eq_true, decide_eq_true_eq]

theorem allDigits_cons (c : Nat) (t : Bytes) : allDigits (c :: t) = true ↔ isDigit c = true ∧ allDigits t = true := by
  simp only [allDigits, List.all_cons, Bool.and_eq_true]

theorem allDigits_reverse (l : Bytes) : allDigits l.reverse = allDigits l := by
  simp only [allDigits, List.all_reverse]

theorem ofDigits_append (a b : Bytes) (acc : Nat) :
    ofDigits (a ++ b) acc = ofDigits b (ofDigits a acc) := by
  induction a generalizing acc with
  | nil => rfl
  | cons c cs ih => simp [ofDigits, ih]

theorem ofDigits_acc (s : Bytes) (acc : Nat) : ofDigits s acc = acc * 10 ^ s.length + val s := by
  induction s generalizing acc with
  | nil => simp [ofDigits, val]
  | cons c cs ih =>
    simp only [val, ofDigits, List.length_cons]
    rw [ih (acc * 10 + (c - 48)), ih (0 * 10 + (c - 48)), Nat.pow_succ']
    generalize 10 ^ cs.length = p
    simp only [Nat.zero_mul, Nat.zero_add, Nat.add_mul, Nat.mul_assoc]
    omega

theorem val_cons (c : Nat) (cs : Bytes) : val (c :: cs) = (c - 48) * 10 ^ cs.length + val cs := by
  rw [val, ofDigits, ofDigits_acc, Nat.zero_mul, Nat.zero_add]

theorem val_concat (l : Bytes) (b : Nat) : val (l ++ [b]) = val l * 10 + (b - 48) := by
  simp [val, ofDigits_append, ofDigits]

theorem val_lt (s : Bytes) (h : allDigits s = true) : val s < 10 ^ s.length := by
  induction s with
  | nil => decide
  | cons c t ih =>
    obtain ⟨hc, ht⟩ := (allDigits_cons c t).mp h
    rw [isDigit_range] at hc
    have := ih ht
    rw [val_cons, List.length_cons, Nat.pow_succ]
    generalize 10 ^ t.length = p at *
    have : (c - 48) * p ≤ 9 * p := Nat.mul_le_mul_right p (by omega)
    omega

theorem val_ge {s : Bytes} (hd : allDigits s = true) (hn : s.head? ≠ some 48) (hne : s ≠ []) :
    10 ^ (s.length - 1) ≤ val s := by
  cases s with
  | nil => exact absurd rfl hne
  | cons c cs =>
    have hc := (isDigit_range c).mp ((allDigits_cons c cs).mp hd).1
    have : 1 ≤ c - 48 := by simp at hn; omega
    rw [val_cons]
    exact Nat.le_trans (Nat.le_mul_of_pos_left _ this) (Nat.le_add_right _ _)

theorem fixed_length (w n : Nat) : (fixed w n).length = w := by
  induction w generalizing n with
  | zero => rfl
  | succ w ih => simp [fixed, ih]

theorem allDigits_fixed (w n : Nat) : allDigits (fixed w n) = true := by
  induction w generalizing n with
  | zero => rfl
  | succ w ih =>
    rw [fixed, allDigits, List.all_append, ← allDigits, ih, List.all_cons, List.all_nil, Bool.and_true, Bool.true_and,
      isDigit_range]
    omega

theorem val_fixed_mod (w n : Nat) : val (fixed w n) = n % 10 ^ w := by
  induction w generalizing n with
  | zero => simp [fixed, val, ofDigits, Nat.mod_one]
  | succ w ih =>
    rw [fixed, val_concat, ih, Nat.pow_succ', Nat.mod_mul]
    generalize n / 10 % 10 ^ w = q
    omega

theorem val_fixed (w n : Nat) (h : n < 10 ^ w) : val (fixed w n) = n := by
  rw [val_fixed_mod, Nat.mod_eq_of_lt h]

theorem fixed_val (t : Bytes) (h : allDigits t = true) : fixed t.length (val t) = t := by
  generalize hn : t.length = n
  induction n generalizing t with
  | zero => rw [List.eq_nil_of_length_eq_zero hn]; rfl
  | succ n ih =>
    rcases List.eq_nil_or_concat t with rfl | ⟨l, b, rfl⟩
    · simp at hn
    · rw [List.concat_eq_append] at h hn ⊢
      rw [allDigits, List.all_append, Bool.and_eq_true, List.all_cons, List.all_nil, Bool.and_true, isDigit_range] at h
      have e1 : (val l * 10 + (b - 48)) / 10 = val l := by omega
      have e2 : 48 + (val l * 10 + (b - 48)) % 10 = b := by omega
      rw [val_concat, fixed, e1, e2, ih l h.1 (by simpa using hn)]

theorem ndigitsF_spec (f n : Nat) (hf : 1 ≤ f) (hn : n < 10 ^ f) :
    1 ≤ ndigitsF f n ∧ n < 10 ^ ndigitsF f n ∧ (ndigitsF f n = 1 ∨ 10 ^ (ndigitsF f n - 1) ≤ n) := by
  induction f generalizing n with
  | zero => omega
  | succ f ih =>
    simp only [ndigitsF]
    split
    · exact ⟨Nat.le_refl 1, by simpa using ‹n < 10›, Or.inl rfl⟩
    · have hn' : n / 10 < 10 ^ f := by
        rw [Nat.pow_succ'] at hn
        exact Nat.div_lt_of_lt_mul hn
      have hf : 1 ≤ f := Nat.pos_of_ne_zero (by rintro rfl; omega)
      obtain ⟨h1, h2, h3⟩ := ih (n / 10) hf hn'
      rw [Nat.add_comm 1, Nat.add_sub_cancel, Nat.pow_succ]
      refine ⟨by omega, by omega, Or.inr ?_⟩
      rcases h3 with h3 | h3
      · rw [h3]; omega
      · rw [← Nat.sub_add_cancel h1, Nat.pow_succ]; omega

theorem ndigits_spec (n : Nat) :
    1 ≤ ndigits n ∧ n < 10 ^ ndigits n ∧ (ndigits n = 1 ∨ 10 ^ (ndigits n - 1) ≤ n) :=
  ndigitsF_spec (n + 1) n (by omega) (Nat.lt_of_succ_lt (Nat.lt_pow_self (by decide)))

theorem ndigits_le (k n : Nat) (hk1 : 1 ≤ k) (hn : n < 10 ^ k) : ndigits n ≤ k := by
  rcases (ndigits_spec n).2.2 with h | h
  · omega
  · have := (Nat.pow_lt_pow_iff_right (a := 10) (by decide)).mp (Nat.lt_of_le_of_lt h hn)
    omega

theorem ndigits_eq {n k : Nat} (hk : 1 ≤ k) (lo : k = 1 ∨ 10 ^ (k - 1) ≤ n) (hi : n < 10 ^ k) : ndigits n = k := by
  refine Nat.le_antisymm (ndigits_le k n hk hi) ?_
  rcases lo with rfl | lo
  · exact (ndigits_spec n).1
  · have := (Nat.pow_lt_pow_iff_right (a := 10) (by decide)).mp (Nat.lt_of_le_of_lt lo (ndigits_spec n).2.1)
    omega

theorem padDec_small (w n : Nat) (hw : 1 ≤ w) (h : n < 10 ^ w) : padDec w n = fixed w n := by
  rw [padDec, Nat.max_eq_left (ndigits_le w n hw h)]

theorem allDigits_padDec (w n : Nat) : allDigits (padDec w n) = true := allDigits_fixed _ _

theorem padDec_length (w n : Nat) : (padDec w n).length = max w (ndigits n) := fixed_length _ _

theorem val_padDec (w n : Nat) : val (padDec w n) = n :=
  val_fixed _ _ (Nat.lt_of_lt_of_le (ndigits_spec n).2.1 (Nat.pow_le_pow_right (by decide) (Nat.le_max_right _ _)))

theorem val_pair (a b : Nat) : val [a, b] = (a - 48) * 10 + (b - 48) := by
  simp [val, ofDigits]

/-- the two digits of a number below 100, as `%02d` prints them -/
theorem padDec2 (n : Nat) (h : n < 100) : padDec 2 n = [48 + n / 10, 48 + n % 10] := by
  rw [padDec_small 2 n (by decide) (by simpa using h)]
  simp only [fixed, List.nil_append, List.cons_append]
  rw [Nat.mod_eq_of_lt (by omega : n / 10 < 10)]

theorem digit_pair (n : Nat) (h : n < 100) :
    isDigit (48 + n / 10) = true ∧ isDigit (48 + n % 10) = true ∧ val [48 + n / 10, 48 + n % 10] = n := by
  rw [isDigit_range, isDigit_range, val_pair]
  omega

theorem padDecInt_nonneg (w : Nat) (n : Int) (h : 0 ≤ n) : padDecInt w n = padDec w n.toNat := by
  unfold padDecInt; rw [if_neg (by omega)]

theorem dec_eq (n : Nat) : dec n = fixed (ndigits n) n := rfl

theorem val_dec (n : Nat) : val (dec n) = n := val_fixed _ _ (ndigits_spec n).2.1

theorem allDigits_dec (n : Nat) : allDigits (dec n) = true := allDigits_fixed _ _

theorem dec_length_pos (n : Nat) : 1 ≤ (dec n).length := by
  rw [dec_eq, fixed_length]; exact (ndigits_spec n).1

theorem dec_val_of_noLead0 {t : Bytes} (hd : allDigits t = true) (hne : t ≠ [])
    (h0 : t = [48] ∨ t.head? ≠ some 48) : dec (val t) = t := by
  have hlen : 1 ≤ t.length := List.length_pos_iff.mpr hne
  rw [dec_eq, ndigits_eq hlen (h0.imp (by rintro rfl; rfl) fun hn => val_ge hd hn hne) (val_lt t hd), fixed_val t hd]

theorem dec_shape (n : Nat) :
    ∃ c t, dec n = c :: t ∧ isDigit c = true ∧ allDigits t = true ∧ (c = 48 → t = []) := by
  have hd := allDigits_dec n
  have hl := dec_length_pos n
  have hv := val_dec n
  cases ht : dec n with
  | nil => rw [ht] at hl; simp at hl
  | cons c r =>
    rw [ht] at hd hv
    obtain ⟨hc, hr⟩ := (allDigits_cons c r).mp hd
    refine ⟨c, r, rfl, hc, hr, ?_⟩
    rintro rfl
    cases r with
    | nil => rfl
    | cons d r' =>
      -- `0d…` has the value of `d…`, which needs one digit less than `dec n` has
      exfalso
      have hlen : (dec n).length = r'.length + 2 := by rw [ht]; simp
      rw [dec_eq, fixed_length] at hlen
      have hlt := val_lt (d :: r') hr
      rw [show val (d :: r') = n by rw [← hv, val_cons 48]; simp] at hlt
      have := ndigits_le (d :: r').length n (by simp) hlt
      simp only [List.length_cons] at this
      omega

end U
