import UtilModel.Model.UU
import UtilModel.Lemmas.TieTactics
/-! # package `uu`: the model agrees with `parseDigit`, `ID.Version`, `ID.Variant` as translated from the source on this run -/
-- the `simp only` lists are wider than today's translation needs: a tie has to survive equivalent rewrites of the source
set_option linter.unusedSimpArgs false
namespace U.CodeTies

theorem read_ite {α : Type} (c : Prop) [Decidable c] (x y : α × Bool) :
    (if (if c then x else y).2 then some (if c then x else y).1 else none) =
      if c then (if x.2 then some x.1 else none) else (if y.2 then some y.1 else none) := by
  split <;> rfl

/-- the translation returns a pair at every leaf of its if-chain: read the pairs at the leaves first, so that two
chains of options are compared (otherwise the chain is split once for `.2` and once more for `.1`) -/
theorem parseDigit_tie (c : Nat) (au : Bool) :
    UU.parseDigit c au = (if (Gen.uu_parseDigit c au).2 then some (Gen.uu_parseDigit c au).1 else none) := by
  unfold UU.parseDigit Gen.uu_parseDigit
  simp only [read_ite, ↓reduceIte]
  ifchain

/-! ## `ID.Version`, `ID.Variant`: the translation works on the two words as naturals below 2^64. Both sides are read as
quotients and remainders (`x >>> k` as `x / 2 ^ k`, a mask of low bits as `% 2 ^ k`, a one-bit mask as the bit `/ 2 ^ k % 2`
in place, in either operand order), so that what is compared is arithmetic, which `omega` decides. -/

theorem and_15' (x : Nat) : 15 &&& x = x % 16 := by
  rw [Nat.and_comm]; exact Nat.and_two_pow_sub_one_eq_mod x 4

theorem and_two_pow (x k : Nat) : x &&& 2 ^ k = x / 2 ^ k % 2 * 2 ^ k := by
  have := Nat.div_add_mod (x &&& 2 ^ k) (2 ^ k)
  rwa [Nat.and_div_two_pow, Nat.and_mod_two_pow, Nat.div_self (Nat.two_pow_pos k), Nat.mod_self, Nat.and_zero,
    Nat.and_one_is_mod, Nat.add_zero, Nat.mul_comm, eq_comm] at this

theorem two_pow_and (x k : Nat) : 2 ^ k &&& x = x / 2 ^ k % 2 * 2 ^ k := by
  rw [Nat.and_comm, and_two_pow]

theorem version_tie (i : UU.ID) : i.version = Gen.uu_Version i.hi.toNat i.lo.toNat := by
  have hh := i.hi.isLt
  simp only [UU.ID.version, Gen.uu_Version, BitVec.toNat_and, BitVec.toNat_ushiftRight, BitVec.toNat_ofNat,
    Nat.shiftRight_eq_div_pow, Nat.and_two_pow_sub_one_eq_mod _ 4, and_15', Nat.reducePow, Nat.reduceMod]
  all_goals omega

theorem variant_tie (i : UU.ID) : i.variant = Gen.uu_Variant i.hi.toNat i.lo.toNat := by
  have hl := i.lo.isLt
  simp only [UU.ID.variant, Gen.uu_Variant, ← BitVec.toNat_inj, BitVec.toNat_and, BitVec.toNat_ofNat,
    and_two_pow _ 63, and_two_pow _ 62, and_two_pow _ 61, two_pow_and _ 63, two_pow_and _ 62, two_pow_and _ 61,
    Nat.reducePow, Nat.reduceMod]
  generalize i.lo.toNat = l at *
  ifchain

end U.CodeTies
