import UtilModel.Model.Size
import UtilModel.Lemmas.Outcome
/-!
# Package `size`: how the functions below the two parsers can end

`parseUintLit`, `newSize`, `newOrError`, `unmarshalText` and the translation of decoder errors never panic and never report a
limit error (`NoLimit`): `tooLong` is reported by `parse` alone, `tooBig` by the member loop alone. The JSON reader
(`Lemmas/SizeObject.lean`) and the abstract object semantics (`Lemmas/SizeMembers.lean`) both start from here.
-/
namespace U.Size
open U.GoJson
open U.Outcome (Ends)

def NoLimit (e : Err) : Prop := e ≠ .tooLong ∧ e ≠ .tooBig

theorem _root_.U.Outcome.Ends.noTooLong {α : Type} {Q : α → Prop} {o : Outcome α} (h : o.Ends NoLimit Q) :
    o.Ends (· ≠ .tooLong) Q :=
  h.mono (fun _ h => h.1) fun _ => id

theorem jerr_noLimit (e : JErr) : NoLimit (jerr e) := by cases e <;> simp [jerr, NoLimit]

theorem parseUintLit_ends (l : Bytes) : (parseUintLit l).Within NoLimit := by
  unfold parseUintLit
  refine .ite (fun _ => ?_) fun _ => .ite (fun _ => ?_) fun _ => trivial
  · simp [Ends, NoLimit]
  · simp [Ends, NoLimit]

theorem parseUintLit_digits {lit : Bytes} (h1 : lit ≠ []) (h2 : allDigits lit = true) (h3 : val lit < two64) :
    parseUintLit lit = .ok (val lit) := by
  unfold parseUintLit
  rw [if_neg (by simp [h1, h2]), if_neg (Nat.not_le.mpr h3)]

theorem newSize_ends (v : Nat) (u : Bytes) : (newSize v u).Within NoLimit := by
  unfold newSize
  refine .ite (fun _ => .ite (fun _ => trivial) fun _ => ?_) fun _ => .ite (fun _ => trivial) fun _ => ?_
  · simp [Ends, NoLimit]
  · split
    · simp [Ends, NoLimit]
    · refine .ite (fun _ => ?_) fun _ => trivial
      simp [Ends, NoLimit]

theorem newOrError_ends (v : Option Nat) (u : Option Bytes) : (newOrError v u).Within NoLimit := by
  unfold newOrError
  split
  · simp [Ends, NoLimit]
  · simp [Ends, NoLimit]
  · exact newSize_ends _ _

theorem unmarshalText_ends (disableUnit : Bool) (s : Bytes) : (unmarshalText disableUnit s).Within NoLimit := by
  unfold unmarshalText
  refine .ite (fun _ => ?_) fun _ => .ite (fun _ => ?_) fun _ => .ite (fun _ => trivial) fun _ =>
    .ite (fun _ => ?_) fun _ => newSize_ends _ _
  all_goals simp [Ends, NoLimit]

end U.Size
