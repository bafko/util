import UtilModel.Lemmas.Dec
import UtilModel.Lemmas.JsonTokens
/-!
# The tokenizer model on literal text

What `scanNumber`, `scanString`, `unquote`, `scanScalar` and `Dec.token` return on the text that
`JVal.render` produces (`Spec/SizeJson.lean`): integer literals, strings of bytes that stand for
themselves, `true`/`false`/`null`, and the single-byte delimiters and separators.
-/
namespace U.JsonTokens
open U.GoJson

/-- the byte after a number literal does not continue it -/
def numEnd (rest : Bytes) : Prop :=
  ∀ c t, rest = c :: t → isDigit c = false ∧ c ≠ 46 ∧ c ≠ 101 ∧ c ≠ 69

theorem spanDigits_append {ds rest : Bytes} (hd : allDigits ds = true)
    (hr : ∀ c t, rest = c :: t → isDigit c = false) : spanDigits (ds ++ rest) = (ds, rest) := by
  induction ds with
  | nil =>
    cases rest with
    | nil => simp [spanDigits]
    | cons c t => simp [spanDigits, hr c t rfl]
  | cons c t ih =>
    obtain ⟨hc, ht⟩ := (allDigits_cons c t).mp hd
    simp only [List.cons_append, spanDigits, hc, if_true]
    rw [ih ht]

theorem negPart_minus (s : Bytes) : negPart (45 :: s) = ([45], s) := rfl

theorem negPart_other {c : Nat} (s : Bytes) (hc : c ≠ 45) : negPart (c :: s) = ([], c :: s) := by
  simp [negPart, hc]

theorem fracPart_end {rest : Bytes} (hr : numEnd rest) : fracPart rest = .ok ([], rest) := by
  unfold fracPart
  split
  · exact absurd rfl (hr _ _ rfl).2.1
  · rfl

theorem expPart_end {rest : Bytes} (hr : numEnd rest) : expPart rest = .ok ([], rest) := by
  unfold expPart
  split
  · rename_i e t
    obtain ⟨_, _, h3, h4⟩ := hr e t rfl
    simp [h3, h4]
  · rfl

theorem digitsLit_cases {ds : Bytes} (h : U.Props.C12.digitsLit ds = true) :
    ∃ c t, ds = c :: t ∧ isDigit c = true ∧ allDigits t = true ∧ (c = 48 → t = []) := by
  unfold U.Props.C12.digitsLit at h
  split at h
  · cases h
  · exact ⟨48, [], rfl, rfl, rfl, fun _ => rfl⟩
  · simp only [Bool.and_eq_true, bne_iff_ne] at h
    exact ⟨_, _, rfl, h.1.2, h.2, fun hc => absurd hc h.1.1⟩

theorem intPart_digitsLit {ds rest : Bytes} (h : U.Props.C12.digitsLit ds = true) (hr : numEnd rest) :
    intPart (ds ++ rest) = .ok (ds, rest) := by
  obtain ⟨c, t, rfl, hc, ht, h0⟩ := digitsLit_cases h
  by_cases h48 : c = 48
  · rw [h48, h0 h48]; rfl
  · simp [intPart, hc, spanDigits_append ht fun c t h => (hr c t h).1]   -- `c ≠ 48` is taken from the context

theorem scanNumber_intLit {lit rest : Bytes} (hl : U.Props.C12.intLit lit = true) (hr : numEnd rest) :
    scanNumber (lit ++ rest) = .ok (lit, rest) := by
  rw [scanNumber_stages]
  unfold U.Props.C12.intLit at hl
  split at hl
  · simp [negPart_minus, intPart_digitsLit hl hr, fracPart_end hr, expPart_end hr, andThen]
  · obtain ⟨c, t, rfl, hc, _⟩ := digitsLit_cases hl
    have h1 := intPart_digitsLit hl hr
    rw [List.cons_append] at h1 ⊢
    simp [negPart_other _ (show c ≠ 45 by rintro rfl; cases hc), h1, fracPart_end hr, expPart_end hr, andThen]

theorem intLit_head {lit : Bytes} (hl : U.Props.C12.intLit lit = true) :
    ∃ c t, lit = c :: t ∧ (c = 45 ∨ isDigit c = true) := by
  unfold U.Props.C12.intLit at hl
  split at hl
  · exact ⟨45, _, rfl, .inl rfl⟩
  · obtain ⟨c, t, rfl, hc, _⟩ := digitsLit_cases hl
    exact ⟨c, t, rfl, .inr hc⟩

theorem token_scalar {s : Bytes} {st : TState} {S : List TState} {tok : Tok} {r : Bytes}
    (hst : valueAllowed st = true) (hs : scanScalar s = .ok (tok, r)) :
    Dec.token ⟨s, st, S⟩ = .ok (tok, ⟨r, valueEnd st, S⟩) := by
  cases s with
  | nil => cases hs
  | cons c t =>
    obtain ⟨_, _, _, hsp, hc⟩ := scanScalar_ok hs
    unfold Dec.token
    rw [tokenF_scalar (skipSpace_cons t hsp) hc, if_neg (by cases st <;> simp [valueAllowed] at hst ⊢), if_pos hst, hs]
    rfl

theorem token_open {c : Nat} {t : Bytes} {st : TState} {S : List TState}
    (hc : c = 91 ∨ c = 123) (hst : valueAllowed st = true) :
    Dec.token ⟨c :: t, st, S⟩ =
      .ok (.delim c, ⟨t, if c = 91 then .arrayStart else .objectStart, st :: S⟩) := by
  rcases hc with rfl | rfl
  · exact (tokenF_arrOpen (skipSpace_cons t rfl)).trans (if_pos hst)
  · exact (tokenF_objOpen (skipSpace_cons t rfl)).trans (if_pos hst)

theorem token_arrClose {t : Bytes} {st p : TState} {S : List TState}
    (hst : st = .arrayStart ∨ st = .arrayComma) :
    Dec.token ⟨93 :: t, st, p :: S⟩ = .ok (.delim 93, ⟨t, valueEnd p, S⟩) :=
  (tokenF_arrClose (skipSpace_cons t rfl)).trans (if_pos hst)

theorem token_objClose {t : Bytes} {st p : TState} {S : List TState}
    (hst : st = .objectStart ∨ st = .objectComma) :
    Dec.token ⟨125 :: t, st, p :: S⟩ = .ok (.delim 125, ⟨t, valueEnd p, S⟩) :=
  (tokenF_objClose (skipSpace_cons t rfl)).trans (if_pos hst)

theorem token_colon (r : Bytes) (S : List TState) :
    Dec.token ⟨58 :: r, .objectColon, S⟩ = Dec.token ⟨r, .objectValue, S⟩ :=
  (tokenF_colon (skipSpace_cons r rfl)).trans (if_pos rfl)

theorem token_commaArr (r : Bytes) (S : List TState) :
    Dec.token ⟨44 :: r, .arrayComma, S⟩ = Dec.token ⟨r, .arrayValue, S⟩ :=
  (tokenF_comma (skipSpace_cons r rfl)).trans (if_pos rfl)

theorem token_commaObj (r : Bytes) (S : List TState) :
    Dec.token ⟨44 :: r, .objectComma, S⟩ = Dec.token ⟨r, .objectKey, S⟩ :=
  (tokenF_comma (skipSpace_cons r rfl)).trans ((if_neg (by decide)).trans (if_pos rfl))

end U.JsonTokens

namespace U.Props.C12
open U.GoJson U.JsonTokens

theorem plainByte_iff {c : Nat} : plainByte c = true ↔ 32 ≤ c ∧ c < 128 ∧ c ≠ 34 ∧ c ≠ 92 := by
  simp [plainByte, and_assoc]

theorem scanString_plain {s : Bytes} (hs : plain s = true) (rest acc : Bytes) :
    scanString (s ++ 34 :: rest) acc = .ok (acc.reverse ++ s, rest) := by
  induction s generalizing acc with
  | nil => rw [List.append_nil]; rfl
  | cons c t ih =>
    simp only [plain, List.all_cons, Bool.and_eq_true] at hs
    obtain ⟨h1, _, h34, h92⟩ := plainByte_iff.mp hs.1
    rw [List.cons_append, scanString.eq_def]
    -- neither the closing quote nor an escape nor a control byte: the last case of the match applies
    -- (`simp` takes `h34`, `h92` from the context, as side conditions of that case's equation)
    simp [Nat.not_lt.mpr h1, ih hs.2]

theorem unquoteF_plain {s : Bytes} (hs : plain s = true) (f : Nat) (hf : s.length < f) :
    unquoteF f s = s := by
  induction s generalizing f with
  | nil => cases f <;> rfl
  | cons c t ih =>
    simp only [plain, List.all_cons, Bool.and_eq_true] at hs
    obtain ⟨_, h2, _, h4⟩ := plainByte_iff.mp hs.1
    obtain ⟨f, rfl, hf⟩ := Nat.exists_eq_add_one_of_ne_zero (Nat.ne_zero_of_lt hf)
    rw [unquoteF.eq_def]
    simp [h4, h2, ih hs.2 f (by simpa using hf)]

theorem unquote_plain {s : Bytes} (hs : plain s = true) : unquote s = s :=
  unquoteF_plain hs _ (by omega)

theorem scanScalar_str {s : Bytes} (hs : plain s = true) (rest : Bytes) :
    scanScalar (34 :: (s ++ 34 :: rest)) = .ok (.str s, rest) := by
  simp [scanScalar, scanString_plain hs, unquote_plain hs]

theorem scanScalar_num {lit rest : Bytes} (hl : intLit lit = true) (hr : numEnd rest) :
    scanScalar (lit ++ rest) = .ok (.num lit, rest) := by
  obtain ⟨c, t, rfl, hc⟩ := intLit_head hl
  have hn := scanNumber_intLit hl hr
  have hne : c ≠ 34 ∧ c ≠ 116 ∧ c ≠ 102 ∧ c ≠ 110 := by
    simp only [isDigit, Bool.and_eq_true, decide_eq_true_eq] at hc; omega
  have hc' : (c == 45 || isDigit c) = true := by simpa using hc
  rw [List.cons_append] at hn ⊢
  simp [scanScalar, hne, hc', hn]

theorem numEnd_cons {c : Nat} (t : Bytes) (h : isDigit c = false ∧ c ≠ 46 ∧ c ≠ 101 ∧ c ≠ 69) : numEnd (c :: t) := by
  intro c' t' heq
  obtain ⟨rfl, _⟩ := List.cons.inj heq
  exact h

theorem numEnd_nil : numEnd [] := by intro c t h; simp at h

theorem token_key_plain {k : Bytes} (hk : plain k = true) (rest : Bytes) {st : TState}
    (hst : st = .objectStart ∨ st = .objectKey) (S : List TState) :
    Dec.token ⟨34 :: (k ++ 34 :: rest), st, S⟩ = .ok (.str k, ⟨rest, .objectColon, S⟩) := by
  unfold Dec.token
  rw [tokenF_scalar (skipSpace_cons _ rfl) (by decide), if_pos ⟨rfl, hst⟩, scanScalar_str hk rest]
  rfl

theorem render_arr_append (xs : List JVal) (rest : Bytes) :
    (JVal.arr xs).render ++ rest = 91 :: (renderElems xs ++ 93 :: rest) :=
  congrArg (91 :: ·) (List.append_assoc ..)

theorem render_obj_append (ms : List (Bytes × JVal)) (rest : Bytes) :
    (JVal.obj ms).render ++ rest = 123 :: (renderMembers ms ++ 125 :: rest) :=
  congrArg (123 :: ·) (List.append_assoc ..)

/-- the first token of a value -/
def JVal.tok : JVal → Tok
  | .num lit => .num lit
  | .str s => .str s
  | .tru => .bool true
  | .fls => .bool false
  | .null => .null
  | .arr _ => .delim 91
  | .obj _ => .delim 123

/-- the decoder after the first token of a value rendered in front of `rest` -/
def JVal.afterTok (x : JVal) (rest : Bytes) (st : TState) (S : List TState) : Dec :=
  match x with
  | .arr xs => ⟨renderElems xs ++ 93 :: rest, .arrayStart, st :: S⟩
  | .obj ms => ⟨renderMembers ms ++ 125 :: rest, .objectStart, st :: S⟩
  | _ => ⟨rest, valueEnd st, S⟩

theorem token_render {x : JVal} (hx : x.wf = true) {rest : Bytes} (hr : numEnd rest) {st : TState}
    (hst : valueAllowed st = true) (S : List TState) :
    Dec.token ⟨x.render ++ rest, st, S⟩ = .ok (x.tok, x.afterTok rest st S) := by
  cases x with
  | num lit => exact token_scalar hst (scanScalar_num hx hr)
  | str s =>
    rw [show (JVal.str s).render ++ rest = 34 :: (s ++ 34 :: rest) from congrArg (34 :: ·) (List.append_assoc ..)]
    exact token_scalar hst (scanScalar_str hx rest)
  | tru | fls | null => exact token_scalar hst rfl
  | arr xs => rw [render_arr_append]; exact token_open (.inl rfl) hst
  | obj ms => rw [render_obj_append]; exact token_open (.inr rfl) hst

end U.Props.C12
