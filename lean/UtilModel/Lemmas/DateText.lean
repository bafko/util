import UtilModel.Lemmas.Dec
import UtilModel.Lemmas.DateBasics
/-! # The date parser in closed form

The scanner `shape` reads a text from its end. `parse_eq` replaces the parser's three look-ups from the end of the
input by conditions on lengths; what the parser does on a well-formed `text`, and what acceptance implies, is read off it. -/
namespace U.Date
open U.GoTime

theorem isDigit_ne_dash {c : Nat} (h : isDigit c = true) : c ≠ 45 := by
  rw [isDigit_range] at h
  omega

theorem stripDash_digit (c : Nat) (t : Bytes) (h : isDigit c = true) : stripDash (c :: t) = c :: t := by
  unfold stripDash
  split
  · rename_i heq
    exact absurd (List.cons.inj heq).1 (isDigit_ne_dash h)
  · rfl

theorem stripDash_allDigits (l : Bytes) (h : allDigits l = true) : stripDash l = l := by
  cases l with
  | nil => rfl
  | cons c t => exact stripDash_digit c t ((allDigits_cons c t).mp h).1

theorem monthPat_iff (m1 m2 : Nat) :
    monthPat m1 m2 = true ↔ isDigit m1 = true ∧ isDigit m2 = true ∧ val [m1, m2] ≤ 12 := by
  simp only [monthPat, val_pair, isDigit_range, Bool.or_eq_true, Bool.and_eq_true, beq_iff_eq]
  omega

theorem dayPat_iff (d1 d2 : Nat) :
    dayPat d1 d2 = true ↔ isDigit d1 = true ∧ isDigit d2 = true ∧ val [d1, d2] ≤ 31 := by
  simp only [dayPat, val_pair, isDigit_range, Bool.or_eq_true, Bool.and_eq_true, beq_iff_eq]
  omega

/-- a well-formed date text: year digits, optional separators (both or none), two month digits, two day digits -/
def text (ext : Bool) (ys : Bytes) (m1 m2 d1 d2 : Nat) : Bytes :=
  if ext then ys ++ [45, m1, m2, 45, d1, d2] else ys ++ [m1, m2, d1, d2]

def sepOf (b : Bool) : Bytes := if b then [45] else []

theorem text_reverse (ext : Bool) (ys : Bytes) (m1 m2 d1 d2 : Nat) :
    (text ext ys m1 m2 d1 d2).reverse = d2 :: d1 :: (sepOf ext ++ m2 :: m1 :: (sepOf ext ++ ys.reverse)) := by
  cases ext <;> simp [text, sepOf]

theorem text_length (ext : Bool) (ys : Bytes) (m1 m2 d1 d2 : Nat) :
    (text ext ys m1 m2 d1 d2).length = ys.length + if ext then 6 else 4 := by
  cases ext <;> simp [text]

theorem shape_complete (ext : Bool) (ys : Bytes) (m1 m2 d1 d2 : Nat)
    (hys : allDigits ys = true) (hl : 4 ≤ ys.length ∧ ys.length ≤ 9)
    (hm : monthPat m1 m2 = true) (hd : dayPat d1 d2 = true) :
    shape (text ext ys m1 m2 d1 d2) = some (ys, [m1, m2], [d1, d2]) := by
  have hm2 := fun t => stripDash_digit m2 t ((monthPat_iff m1 m2).mp hm).2.1
  have hrev : stripDash ys.reverse = ys.reverse := stripDash_allDigits _ (by rw [allDigits_reverse]; exact hys)
  unfold shape
  rw [text_reverse]
  cases ext
  · simp only [sepOf, Bool.false_eq_true, if_false, List.nil_append, hm2, hrev, List.reverse_reverse, hys, hl.1, hl.2,
      hm, hd, decide_true, Bool.and_self, if_true]
  · simp only [sepOf, if_true, List.cons_append, List.nil_append, stripDash, List.reverse_reverse, hys, hl.1, hl.2,
      hm, hd, decide_true, Bool.and_self]

theorem stripDash_cases (l : Bytes) : ∃ b, l = sepOf b ++ stripDash l := by
  unfold stripDash
  split
  · exact ⟨true, rfl⟩
  · exact ⟨false, rfl⟩

theorem shape_sound (s ys ms ds : Bytes) (h : shape s = some (ys, ms, ds)) :
    ∃ m1 m2 d1 d2 a b, ms = [m1, m2] ∧ ds = [d1, d2] ∧ allDigits ys = true ∧ 4 ≤ ys.length ∧ ys.length ≤ 9 ∧
      monthPat m1 m2 = true ∧ dayPat d1 d2 = true ∧
      s.reverse = d2 :: d1 :: (sepOf b ++ m2 :: m1 :: (sepOf a ++ ys.reverse)) ∧
      s.length = ys.length + 4 + (sepOf a).length + (sepOf b).length := by
  unfold shape at h
  split at h
  · rename_i d2 d1 r1 hrev
    split at h
    · rename_i m2 m1 r3 hr1
      simp only at h
      split at h
      · rename_i hc
        simp only [Option.some.injEq, Prod.mk.injEq] at h
        obtain ⟨rfl, rfl, rfl⟩ := h
        simp only [Bool.and_eq_true, decide_eq_true_eq] at hc
        obtain ⟨⟨⟨⟨hys, h4⟩, h9⟩, hm⟩, hd⟩ := hc
        obtain ⟨b, hb⟩ := stripDash_cases r1
        obtain ⟨a, ha⟩ := stripDash_cases r3
        have hs : s.reverse = d2 :: d1 :: (sepOf b ++ m2 :: m1 :: (sepOf a ++ (stripDash r3).reverse.reverse)) := by
          rw [hrev, List.reverse_reverse, ← ha, ← hr1, ← hb]
        refine ⟨m1, m2, d1, d2, a, b, rfl, rfl, hys, h4, h9, hm, hd, hs, ?_⟩
        have := congrArg List.length hs
        simp only [List.length_reverse, List.length_cons, List.length_append] at this ⊢
        omega
      · simp at h
    · simp at h
  · simp at h

/-- after the two length checks and the scanner, the separators must be both present (the text is two bytes longer
than the groups) or both absent (and then the basic form allowed); never a panic. This is the one place where the
three look-ups from the end of the input are computed. -/
theorem parse_eq (maxLen : Nat) (db : Bool) (s : Bytes) :
    parse maxLen db s =
      if s.length = 0 then .err .invalid
      else if maxLen ≠ 0 ∧ s.length > maxLen then .err .tooLong
      else match shape s with
        | none => .err .invalid
        | some (ys, ms, ds) =>
          if s.length = ys.length + 5 then .err .invalid
          else if s.length = ys.length + 4 ∧ db = true then .err .basicDisabled
          else if validDate (val ys) (val ms) (val ds) then .ok (new (val ys) (val ms) (val ds)) else .err .invalid := by
  unfold parse
  refine ite_congr rfl (fun _ => rfl) fun _ => ite_congr rfl (fun _ => rfl) fun _ => ?_
  cases hshape : shape s with
  | none => rfl
  | some p =>
    obtain ⟨ys, ms, ds⟩ := p
    simp only
    obtain ⟨m1, m2, d1, d2, a, b, rfl, rfl, hys, h4, h9, hm, hd, hr, hl⟩ := shape_sound s ys _ _ hshape
    have hm2 := isDigit_ne_dash ((monthPat_iff m1 m2).mp hm).2.1
    -- the look-ups at `l-5` and `l-6` can reach the last two year digits; what matters is that the last one is no `-`
    obtain ⟨c5, c6, t, hyr⟩ : ∃ c5 c6 t, ys.reverse = c5 :: c6 :: t := by
      match hr : ys.reverse with
      | c5 :: c6 :: t => exact ⟨c5, c6, t, rfl⟩
      | [] | [_] =>
        have := congrArg List.length hr
        simp only [List.length_reverse, List.length_nil, List.length_cons] at this
        omega
    have hc : allDigits (c5 :: c6 :: t) = true := by rw [← hyr, allDigits_reverse]; exact hys
    have hc5 := isDigit_ne_dash ((allDigits_cons _ _).mp hc).1
    have e : ∀ k, k < s.length → s[s.length - (k + 1)]? = s.reverse[k]? := by
      intro k hk
      rw [List.getElem?_reverse hk]; congr 1; omega
    rw [e 2 (by omega), e 4 (by omega), e 5 (by omega), hr, hyr, hl]
    -- the bytes read at `l-3`, `l-5`, `l-6`, by where the separators stand
    cases a <;> cases b
    · -- YYYYMMDD: `m2`, `c5`, `c6`
      simp [sepOf, hm2, hc5]
    · -- YYYYMM-DD: `-`, `m1`, `c5`
      simp [sepOf, hc5]
    · -- YYYY-MMDD: `m2`, `-`, `c5`
      simp [sepOf, hm2, hc5]
    · -- YYYY-MM-DD: `-`, `m1`, `-`
      simp [sepOf]

theorem parse_complete (maxLen : Nat) (disableBasic ext : Bool) (ys : Bytes) (m1 m2 d1 d2 : Nat) {y m d : Nat}
    (hys : allDigits ys = true) (hl : 4 ≤ ys.length ∧ ys.length ≤ 9)
    (hm1 : isDigit m1 = true) (hm2 : isDigit m2 = true) (hd1 : isDigit d1 = true) (hd2 : isDigit d2 = true)
    (hy : val ys = y) (hm : val [m1, m2] = m) (hd : val [d1, d2] = d) (hv : ValidDate y m d)
    (hlen : maxLen = 0 ∨ (text ext ys m1 m2 d1 d2).length ≤ maxLen) :
    parse maxLen disableBasic (text ext ys m1 m2 d1 d2) =
      if !ext && disableBasic then .err .basicDisabled else .ok (new y m d) := by
  subst hy hm hd
  have hb := hv.bounds
  have hmp := (monthPat_iff m1 m2).mpr ⟨hm1, hm2, hb.2.1⟩
  have hdp := (dayPat_iff d1 d2).mpr ⟨hd1, hd2, by omega⟩
  rw [parse_eq, shape_complete ext ys m1 m2 d1 d2 hys hl hmp hdp]
  simp only [(validDate_iff_valid _ _ _).mpr hv, if_true]
  rw [text_length] at hlen ⊢
  cases ext
  · simp only [Bool.false_eq_true, if_false] at hlen ⊢
    rw [if_neg (by omega), if_neg (by omega), if_neg (by omega)]
    cases disableBasic <;> simp
  · simp only [if_true] at hlen ⊢
    rw [if_neg (by omega), if_neg (by omega), if_neg (by omega)]
    simp

theorem parse_sound (maxLen : Nat) (db : Bool) (s : Bytes) (d : Date) (h : parse maxLen db s = .ok d) :
    (maxLen = 0 ∨ s.length ≤ maxLen) ∧
    ∃ ext ys m1 m2 d1 d2, s = text ext ys m1 m2 d1 d2 ∧ allDigits ys = true ∧ 4 ≤ ys.length ∧ ys.length ≤ 9 ∧
      isDigit m1 = true ∧ isDigit m2 = true ∧ isDigit d1 = true ∧ isDigit d2 = true ∧
      ValidDate (val ys) (val [m1, m2]) (val [d1, d2]) ∧ (ext = false → db = false) ∧
      d = new (val ys) (val [m1, m2]) (val [d1, d2]) := by
  rw [parse_eq] at h
  cases hshape : shape s with
  | none => simp [hshape, Outcome.ite_err_eq_ok] at h
  | some p =>
    obtain ⟨ys, ms, ds⟩ := p
    simp only [hshape, Outcome.ite_err_eq_ok, Outcome.ite_ok_eq_ok] at h
    obtain ⟨_, hlen, h5, h4b, hv, rfl⟩ := h
    obtain ⟨m1, m2, d1, d2, a, b, rfl, rfl, hys, h4, h9, hm, hd, hs, hl⟩ := shape_sound s ys _ _ hshape
    -- the guards leave neither exactly one separator …
    have hab : a = b := by
      cases a <;> cases b
      · rfl
      · exact absurd hl h5
      · exact absurd hl h5
      · rfl
    subst hab
    have hmd := (monthPat_iff m1 m2).mp hm
    have hdd := (dayPat_iff d1 d2).mp hd
    refine ⟨by omega, a, ys, m1, m2, d1, d2, List.reverse_inj.mp (by rw [hs, text_reverse]), hys, h4, h9,
      hmd.1, hmd.2.1, hdd.1, hdd.2.1, (validDate_iff_valid _ _ _).mp hv, ?_, rfl⟩
    -- … nor the basic form when it is disabled
    rintro rfl
    cases db
    · rfl
    · exact absurd ⟨hl, rfl⟩ h4b

theorem parse_ends (maxLen : Nat) (db : Bool) (s : Bytes) :
    (parse maxLen db s).Within fun e =>
      (e = .tooLong ∧ maxLen ≠ 0 ∧ s.length > maxLen) ∨ e = .invalid ∨ e = .basicDisabled := by
  rw [parse_eq]
  refine .ite (fun _ => .inr (.inl rfl)) fun _ => .ite (fun hl => .inl ⟨rfl, hl⟩) fun _ => ?_
  split
  · exact .inr (.inl rfl)
  · exact .ite (fun _ => .inr (.inl rfl)) fun _ => .ite (fun _ => .inr (.inr rfl)) fun _ =>
      .ite (fun _ => trivial) fun _ => .inr (.inl rfl)

end U.Date
