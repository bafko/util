import UtilModel.Spec.SemVerOrder
import UtilModel.Lemmas.SemNumeric
/-! # The comparator model agrees with the §11 specification outside the excluded region -/
namespace U.Sem
open U.Props.C06

theorem isNumeric_eq (s : Bytes) : isNumeric s = isNum s := rfl

/-- the byte loop equals `strings.Compare` unless the remainders after the common prefix are both
non-empty digit runs -/
theorem cmpAlnum_eq_cmpBytes (a b : Bytes)
    (h : (let r := stripCommon a b; !r.1.isEmpty && !r.2.isEmpty && allDigits r.1 && allDigits r.2) = false) :
    cmpAlnum a b = cmpBytes a b := by
  induction a generalizing b with
  | nil => cases b <;> rfl
  | cons x xs ih =>
    cases b with
    | nil => rfl
    | cons y ys =>
      simp only [cmpAlnum]
      by_cases hxy : x = y
      · subst hxy
        rw [if_pos rfl, cmpBytes_cons, cmpNat_self, lex_zero]
        apply ih
        simpa [stripCommon] using h
      · rw [if_neg hxy]
        simp only [stripCommon, hxy, if_false, List.isEmpty_cons, Bool.not_false, Bool.true_and] at h
        unfold cmpSuffix
        rw [h]
        simp

theorem compareIdentifier_spec (a b : Bytes) (h : excludedIdent a b = false) :
    compareIdentifier a b = specIdent a b := by
  rw [compareIdentifier_eq]
  unfold specIdent
  unfold excludedIdent at h
  simp only [isNumeric_eq]
  cases ha : isNum a <;> cases hb : isNum b
  · exact cmpAlnum_eq_cmpBytes a b (by simpa [ha, hb] using h)
  · rfl
  · rfl
  · simp only [isNum, Bool.and_eq_true] at ha hb
    exact cmpNumeric_spec a b ha.2 hb.2

theorem specIdent_self (a : Bytes) : specIdent a a = 0 := by
  unfold specIdent
  cases isNum a <;> simp [cmpBytes_refl, cmpNat_self]

theorem specIdents_cons (a b : Bytes) (as bs : List Bytes) :
    specIdents (a :: as) (b :: bs) = lex (specIdent a b) (specIdents as bs) := rfl

theorem cmpIdents_spec (as bs : List Bytes) (h : excludedIdents as bs = false) :
    cmpIdents as bs = specIdents as bs := by
  induction as generalizing bs with
  | nil => cases bs <;> rfl
  | cons a as ih =>
    cases bs with
    | nil => rfl
    | cons b bs =>
      rw [cmpIdents_cons, specIdents_cons]
      by_cases hab : a = b
      · subst hab
        simp only [excludedIdents, if_true] at h
        rw [compareIdentifier_refl, specIdent_self, ih bs h]
      · simp only [excludedIdents, hab, if_false, Bool.or_eq_false_iff, Bool.and_eq_false_iff, beq_eq_false_iff_ne] at h
        rw [compareIdentifier_spec a b h.1]
        rcases h.2 with hz | ht
        · unfold lex; rw [if_pos hz, if_pos hz]
        · rw [ih bs ht]

end U.Sem
