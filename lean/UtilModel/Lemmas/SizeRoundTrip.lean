import UtilModel.Props.C13
import UtilModel.Props.C08
import UtilModel.Lemmas.SizeRender
/-!
# Size: every marshalled form parses back to the same size

Every marshalled text is an instance of a form whose reading is already known: the text forms are
renderings in the sense of C08 (`render`: digits, optional single spaces, a unit made of letters), so
`C08.text_exact` reads them; the JSON forms are the compact text of a number, a string or a two-member
object in the sense of C12, so the refinement theorems of `Lemmas/SizeRender.lean` read them.
-/
namespace U.Size
open U.Props.C08 (Sep body digitsOf render UnitOk Digit)
open U.Props.C12 (plain plainByte intLit digitsLit JVal renderObject keyValue keyUnit)

theorem unitOk_of_letters (u : Bytes) (h : u.all isLetter = true) : UnitOk u := by
  have hl : ∀ c ∈ u, (65 ≤ c ∧ c ≤ 90) ∨ (97 ≤ c ∧ c ≤ 122) := by
    intro c hc
    simpa [isLetter, isUpper, isLower] using List.all_eq_true.mp h c hc
  cases u with
  | nil => simp [UnitOk]
  | cons c t =>
    have hc := hl c List.mem_cons_self
    refine ⟨by simp; omega, by simp; omega, ?_, ?_, ?_⟩
    · intro d hd
      simp only [List.head?_cons, Option.some.injEq] at hd
      unfold Digit; omega
    · intro hp
      have := (List.cons_prefix_cons.mp hp).1
      omega
    · intro h32
      have := hl 32 (List.mem_of_getLast? h32)
      omega

theorem plain_of_letters (u : Bytes) (h : u.all isLetter = true) : plain u = true := by
  simp only [plain, List.all_eq_true] at h ⊢
  intro c hc
  have := h c hc
  simp only [isLetter, isUpper, isLower, plainByte, Bool.or_eq_true, Bool.and_eq_true, decide_eq_true_eq,
    bne_iff_ne] at this ⊢
  omega

theorem plain_of_digits (ds : Bytes) (h : allDigits ds = true) : plain ds = true := by
  simp only [plain, allDigits, List.all_eq_true] at h ⊢
  intro c hc
  have := h c hc
  simp only [isDigit, plainByte, Bool.and_eq_true, decide_eq_true_eq, bne_iff_ne] at this ⊢
  omega

theorem binaryUnits_facts : ∀ p ∈ U.Props.C13.binaryUnits,
    p.1.all isLetter = true ∧ p.1.length ≤ 3 ∧ U.Props.C08.mult p.1 = some p.2 := by decide

theorem shorten_newSize (s : Nat) (hs : s < two64) :
    (shorten s).1 ≤ s ∧ (shorten s).2.all isLetter = true ∧ (shorten s).2.length ≤ 3 ∧
      newSize (shorten s).1 (shorten s).2 = .ok s := by
  obtain ⟨k, _, hu, hv, _, _⟩ := U.Props.C13.shorten_exact_maximal s hs
  obtain ⟨h1, h2, h3⟩ := binaryUnits_facts _ (List.mem_of_getElem? hu)
  dsimp only at h1 h2 h3
  have hle : (shorten s).1 ≤ s :=
    Nat.le_trans (Nat.le_mul_of_pos_right _ (Nat.pow_pos (by decide : 0 < 1024))) (Nat.le_of_eq hv)
  refine ⟨hle, h1, h2, (U.Props.C08.newSize_exact _ _ _).mpr ?_⟩
  rcases Nat.eq_zero_or_pos (shorten s).1 with h0 | hpos
  · exact .inl ⟨h0, by rw [← hv, h0, Nat.zero_mul], .inr (.inl (by rw [h3]; simp))⟩
  · exact .inr ⟨hpos, .inr ⟨_, h3, hv.symm, by rw [hv]; exact two64_eq ▸ hs⟩⟩

theorem newSize_nil (v : Nat) : newSize v [] = .ok v := by
  unfold newSize
  split
  · rename_i h; rw [h]; rfl
  · rfl

theorem withSeps_body (xs : List Sep) (cond : Nat → Bool) (ds : Bytes) (i : Nat) :
    ∃ sp, body sp = withSeps (xs.flatMap Sep.bytes) cond ds i ∧ digitsOf sp = ds := by
  induction ds generalizing i with
  | nil => exact ⟨[], rfl, rfl⟩
  | cons d ds ih =>
    obtain ⟨sp, h1, h2⟩ := ih (i + 1)
    refine ⟨(d, if cond i then xs else []) :: sp, ?_, by simp [digitsOf] at h2 ⊢; exact h2⟩
    simp only [body, List.flatMap_cons, withSeps] at h1 ⊢
    rw [h1]
    cases cond i <;> simp

theorem unmarshalText_withSeps (xs : List Sep) (cond : Nat → Bool) (v : Nat) (u : Bytes)
    (hv : v < two64) (hu : UnitOk u) :
    unmarshalText false (withSeps (xs.flatMap Sep.bytes) cond (dec v) 0 ++ u) = newSize v u := by
  obtain ⟨sp, h1, h2⟩ := withSeps_body xs cond (dec v) 0
  have hne : sp ≠ [] := by
    rintro rfl
    exact absurd (h2 ▸ dec_length_pos v) (by decide)
  have hd : ∀ p ∈ sp, Digit p.1 := by
    intro p hp
    have : allDigits (digitsOf sp) = true := h2 ▸ allDigits_dec v
    exact (isDigit_range _).mp (List.all_eq_true.mp this _ (List.mem_map_of_mem hp))
  have := U.Props.C08.text_exact false 0 sp u 0 ⟨hne, hd, hu⟩
  simp only [render, List.replicate_zero, List.nil_append, List.append_nil] at this
  rw [h1, h2, val_dec, if_neg (by rw [two64_eq] at hv; omega)] at this
  rw [this]
  split
  · rename_i h; rw [h, newSize_nil]
  · rfl

theorem unmarshalText_dec (s : Nat) (hs : s < two64) : unmarshalText false (dec s) = .ok s := by
  have := unmarshalText_withSeps [] (fun _ => false) s [] hs (unitOk_of_letters [] rfl)
  rwa [List.flatMap_nil, withSeps_nil, List.append_nil, newSize_nil] at this

theorem separator_noHTML (f : Nat) (hf : hasFlag f Gen.size_FormatHTML = false) :
    separator f = (if hasFlag f Gen.size_FormatPretty then [Sep.sp] else []).flatMap Sep.bytes := by
  unfold separator
  rw [hf]
  cases hasFlag f Gen.size_FormatPretty <;> rfl

/-- `String()`, `PrettyString()` and every other rendering without `FormatHTML` parse back -/
theorem unmarshalText_format (s f : Nat) (hs : s < two64) (hf : hasFlag f Gen.size_FormatHTML = false) :
    unmarshalText false (format [] s f) = .ok s := by
  obtain ⟨h1, h2, _, h4⟩ := shorten_newSize s hs
  rw [format_eq, List.nil_append, separator_noHTML f hf,
    unmarshalText_withSeps _ _ _ _ (by omega) (unitOk_of_letters _ h2), h4]

theorem unmarshalText_marshalText (c : MarshalCfg) (s : Nat) (hs : s < two64) :
    unmarshalText false (marshalText c s) = .ok s := by
  unfold marshalText
  split
  · exact unmarshalText_dec s hs
  · exact unmarshalText_format s 0 hs (by decide)

/-! ## lengths -/

theorem dec_lt_two64_length (v : Nat) (hv : v < two64) : (dec v).length ≤ 20 := by
  rw [dec_eq, fixed_length]
  exact ndigits_le 20 v (by decide) (Nat.lt_trans hv (by decide))

/-- at most 20 digits, each with at most one separator, and at most three letters -/
theorem format_length_le (s f : Nat) (hs : s < two64) :
    (format [] s f).length ≤ (1 + (separator f).length) * 20 + 3 := by
  obtain ⟨h1, _, h3, _⟩ := shorten_newSize s hs
  have h := withSeps_length_le (separator f)
    (fun i => decide (((dec (shorten s).1).length - 1 - i) % 3 = 0)) (dec (shorten s).1) 0
  have := Nat.mul_le_mul_left (1 + (separator f).length) (dec_lt_two64_length (shorten s).1 (by omega))
  rw [format_eq, List.nil_append, List.length_append]
  omega

theorem marshalText_length (c : MarshalCfg) (s : Nat) (hs : s < two64) : (marshalText c s).length ≤ 23 := by
  unfold marshalText
  split
  · have := dec_lt_two64_length s hs; omega
  · exact format_length_le s 0 hs

theorem marshalJSON_length (c : MarshalCfg) (s : Nat) (hs : s < two64) : (marshalJSON c s).length ≤ 43 := by
  unfold marshalJSON
  split
  · unfold marshalJSONObject
    obtain ⟨h1, _, h3, _⟩ := shorten_newSize s hs
    have := dec_lt_two64_length (shorten s).1 (by omega)
    simp only [List.length_append, Gen.size_jsonObjOpen, Gen.size_jsonObjMid, Gen.size_jsonObjClose, List.length_cons, List.length_nil]
    omega
  · split
    · have := marshalText_length c s hs
      simp only [List.length_append, List.length_cons, List.length_nil]; omega
    · have := dec_lt_two64_length s hs; omega

theorem ruleText : Rule.ofNat (Gen.size_DefaultRule &&& Gen.size_ruleUnmarshalTextMask) = ⟨false, false, false, false⟩ := by decide
theorem ruleJSON : Rule.ofNat Gen.size_DefaultRule = ⟨false, true, true, false⟩ := by decide

theorem parse_ruleText (maxLen maxKeys : Nat) (x : Bytes) (h : maxLen = 0 ∨ x.length ≤ maxLen) :
    parse maxLen maxKeys (Rule.ofNat (Gen.size_DefaultRule &&& Gen.size_ruleUnmarshalTextMask)) x =
      unmarshalText false x := by
  rw [ruleText, U.SizeObject.parse_text_mode _ _ _ _ rfl rfl h]

theorem parse_ruleJSON (maxLen maxKeys : Nat) (x : Bytes) (h : maxLen = 0 ∨ x.length ≤ maxLen) :
    parse maxLen maxKeys (Rule.ofNat Gen.size_DefaultRule) x = unmarshalJSON maxKeys ⟨false, true, true, false⟩ x := by
  rw [ruleJSON, U.SizeObject.parse_json_mode _ _ _ _ (.inl rfl) h]

theorem intLit_dec (n : Nat) : intLit (dec n) = true := by
  obtain ⟨c, t, h, hc, ht, h0⟩ := dec_shape n
  rw [h]
  by_cases h48 : c = 48
  · rw [h48, h0 h48]; rfl
  · have h45 : c ≠ 45 := fun h => by rw [h] at hc; cases hc
    simp [intLit, digitsLit, h48, h45, hc, ht]

theorem unmarshalJSON_dec (maxKeys : Nat) (r : Rule) (s : Nat) (hs : s < two64) :
    unmarshalJSON maxKeys r (dec s) = .ok s := by
  rw [U.Props.C12.unmarshalJSON_render_num (intLit_dec s), unmarshalText_dec s hs]

theorem marshalText_plain (c : MarshalCfg) (s : Nat) (hs : s < two64) : plain (marshalText c s) = true := by
  unfold marshalText
  split
  · exact plain_of_digits _ (allDigits_dec s)
  · rw [U.Props.C13.plain s 0 rfl, plain, List.all_append]
    exact Bool.and_eq_true_iff.mpr
      ⟨plain_of_digits _ (allDigits_dec _), plain_of_letters _ (shorten_newSize s hs).2.1⟩

theorem marshalJSONObject_eq (s : Nat) : marshalJSONObject s =
    renderObject [(keyValue, .num (dec (shorten s).1)), (keyUnit, .str (shorten s).2)] := by
  simp [marshalJSONObject, renderObject, U.Props.C12.renderMembers, U.Props.C12.renderMembersTail, JVal.render,
    keyValue, keyUnit, Gen.size_jsonObjOpen, Gen.size_jsonObjMid, Gen.size_jsonObjClose]

theorem unmarshalJSON_marshalJSONObject (maxKeys : Nat) (hk : maxKeys = 0 ∨ 2 ≤ maxKeys) (r : Rule)
    (hr : r.jsonObject = true) (s : Nat) (hs : s < two64) :
    unmarshalJSON maxKeys r (marshalJSONObject s) = .ok s := by
  obtain ⟨h1, h2, _, h4⟩ := shorten_newSize s hs
  have hkeys : U.Props.C12.plain keyValue = true ∧ U.Props.C12.plain keyUnit = true := by decide
  have hwf : U.Props.C12.wfMembers
      [(keyValue, .num (dec (shorten s).1)), (keyUnit, .str (shorten s).2)] = true := by
    simp [U.Props.C12.wfMembers, JVal.wf, intLit_dec, plain_of_letters _ h2, hkeys]
  have hlit : parseUintLit (dec (shorten s).1) = .ok (val (dec (shorten s).1)) :=
    parseUintLit_digits (List.ne_nil_of_length_pos (dec_length_pos _)) (allDigits_dec _)
      (by rw [val_dec]; omega)
  have := U.Props.C12.unmarshalJSON_renderObject (mk := maxKeys) _ hwf hr (ws := []) rfl
  rw [List.append_nil] at this
  rw [marshalJSONObject_eq, this,
    U.Props.C12.evalMembers_eq_newSize (kv := keyValue) (ku := keyUnit) hk (fun _ => rfl) rfl hlit rfl, val_dec, h4]

theorem unmarshalJSON_marshalJSON (maxKeys : Nat) (hk : maxKeys = 0 ∨ 2 ≤ maxKeys) (r : Rule)
    (hro : r.jsonObject = true) (hrs : r.jsonString = true) (c : MarshalCfg) (s : Nat) (hs : s < two64) :
    unmarshalJSON maxKeys r (marshalJSON c s) = .ok s := by
  unfold marshalJSON
  split
  · exact unmarshalJSON_marshalJSONObject maxKeys hk r hro s hs
  · split
    · rw [List.cons_append, U.Props.C12.unmarshalJSON_render_str (marshalText_plain c s hs) hrs]
      exact unmarshalText_marshalText c s hs
    · exact unmarshalJSON_dec maxKeys r s hs

end U.Size
