import UtilModel.Model.Sem
import UtilModel.Lemmas.Dec
import UtilModel.Lemmas.Outcome
import UtilModel.Spec.SemVerBNF
/-! # The SemVer scanner `shape` is the BNF; the parser in closed form; formatting and parsing are inverse

The Boolean checks of the model are the classes of `Spec/SemVerBNF.lean` (the `_iff` lemmas); on a text of the grammar
the three scans of `shape` find its parts (`steps_of_parts`); `unmarshalText` is a chain of guarded refusals before
`parseBody` (`unmarshalText_eq`), read off with the lemmas on such chains in `Lemmas/Outcome.lean`. A text is accepted
with result `v` exactly when its parts are those of `v` — the numbers in decimal, the non-empty fields
(`unmarshalText_ok_iff`) — and these are what the formatter writes (`format_eq`). -/
namespace U.Sem
open U.Props.C03

/-! ## `cut` -/

theorem cut_cons_eq (sep : Nat) (t : Bytes) : cut sep (sep :: t) = ([], some t) := by
  simp [cut]

theorem cut_cons_ne (sep c : Nat) (t : Bytes) (h : c ≠ sep) :
    cut sep (c :: t) = (c :: (cut sep t).1, (cut sep t).2) := by
  simp [cut, h]

theorem cut_spec (sep : Nat) (s : Bytes) :
    sep ∉ (cut sep s).1 ∧
      s = (cut sep s).1 ++ (match (cut sep s).2 with | some b => sep :: b | none => []) := by
  induction s with
  | nil => simp [cut]
  | cons c t ih =>
    by_cases h : c = sep
    · subst h; rw [cut_cons_eq]; simp
    · rw [cut_cons_ne sep c t h]
      exact ⟨by simpa [Ne.symm h] using ih.1, congrArg (c :: ·) ih.2⟩

theorem cut_opt {sep : Nat} {a : Bytes} (b? : Option Bytes) (h : sep ∉ a) :
    cut sep (a ++ (match b? with | some b => sep :: b | none => [])) = (a, b?) := by
  induction a with
  | nil => cases b? with
    | none => rfl
    | some b => exact cut_cons_eq sep b
  | cons c t ih =>
    rw [List.mem_cons, not_or] at h
    rw [List.cons_append, cut_cons_ne sep c _ (Ne.symm h.1), ih h.2]

theorem cut_none {sep : Nat} {s a : Bytes} (h : cut sep s = (a, none)) : s = a ∧ sep ∉ a := by
  simpa [h, and_comm] using cut_spec sep s

theorem cut_some {sep : Nat} {s a b : Bytes} (h : cut sep s = (a, some b)) :
    s = a ++ sep :: b ∧ sep ∉ a := by
  simpa [h, and_comm] using cut_spec sep s

/-! ## `splitDot` and `joinDots` are the library's `splitOn 46` and `intercalate [46]`, which are inverse -/

theorem joinDots_eq_intercalate : ∀ ids : List Bytes, joinDots ids = List.intercalate [46] ids
  | [] => rfl
  | [a] => List.intercalate_singleton.symm
  | a :: b :: r => by
    rw [joinDots, joinDots_eq_intercalate (b :: r), List.intercalate_cons_cons, List.append_assoc]; rfl

theorem splitDot_eq_splitOn (s : Bytes) : splitDot s = s.splitOn 46 := by
  induction s with
  | nil => rfl
  | cons c t ih =>
    rw [List.splitOn_cons_eq_if_modifyHead, ← ih, splitDot]
    by_cases h : c = 46
    · rw [if_pos h, if_pos (by simpa using h)]
    · rw [if_neg h, if_neg (by simpa using h)]
      cases hs : splitDot t with
      | nil => exact absurd (ih ▸ hs) (List.splitOn_ne_nil 46 t)
      | cons p ps => rfl

theorem joinDots_splitDot (s : Bytes) : joinDots (splitDot s) = s := by
  rw [joinDots_eq_intercalate, splitDot_eq_splitOn, List.intercalate_splitOn]

theorem splitDot_joinDots {ids : List Bytes} (hne : ids ≠ []) (h : ∀ i ∈ ids, 46 ∉ i) :
    splitDot (joinDots ids) = ids := by
  rw [joinDots_eq_intercalate, splitDot_eq_splitOn, List.splitOn_intercalate 46 h hne]

theorem mem_joinDots {c : Nat} : ∀ {ids : List Bytes}, c ∈ joinDots ids → c = 46 ∨ ∃ i ∈ ids, c ∈ i
  | [], h => by simp [joinDots] at h
  | [a], h => Or.inr ⟨a, by simp, h⟩
  | a :: b :: r, h => by
    simp only [joinDots, List.mem_append, List.mem_cons] at h
    rcases h with h | h | h
    · exact Or.inr ⟨a, by simp, h⟩
    · exact Or.inl h
    · exact (mem_joinDots h).imp_right fun ⟨i, hi, hc⟩ => ⟨i, List.mem_cons_of_mem _ hi, hc⟩

/-! ## character classes and identifiers -/

theorem isIdentChar_iff (c : Nat) : isIdentChar c = true ↔ IdentChar c := by
  simp only [isIdentChar, isDigit, isLetter, isUpper, isLower, Bool.or_eq_true, Bool.and_eq_true,
    decide_eq_true_eq, beq_iff_eq, IdentChar, Digit, Letter]
  omega

theorem allDigits_iff (s : Bytes) : allDigits s = true ↔ ∀ c ∈ s, Digit c := by
  simp only [allDigits, List.all_eq_true, isDigit_range, Digit]

theorem digit_ne {c : Nat} (h : Digit c) : c ≠ 43 ∧ c ≠ 45 ∧ c ≠ 46 := by
  unfold Digit at h; omega

theorem identChar_ne {c : Nat} (h : IdentChar c) : c ≠ 43 ∧ c ≠ 46 := by
  unfold IdentChar Digit Letter at h; omega

theorem isNumIdent_iff (s : Bytes) : isNumIdent s = true ↔ NumId s := by
  unfold isNumIdent NumId PosDigit
  split
  · simp
  · simp
  · rename_i _ c t h
    simp only [Bool.and_eq_true, bne_iff_ne, ne_eq, isDigit_range, allDigits_iff, Digit, List.cons.injEq]
    constructor
    · exact fun ⟨⟨h1, h2⟩, h3⟩ => Or.inr ⟨c, t, ⟨rfl, rfl⟩, by omega, h3⟩
    · rintro (⟨rfl, rfl⟩ | ⟨_, _, ⟨rfl, rfl⟩, h2, h3⟩)
      · exact (h rfl rfl).elim
      · exact ⟨⟨by omega, by omega⟩, h3⟩

theorem isBuildIdent_iff (s : Bytes) : isBuildIdent s = true ↔ BuildId s := by
  simp only [isBuildIdent, Bool.and_eq_true, Bool.not_eq_true', List.isEmpty_eq_false_iff, List.all_eq_true,
    isIdentChar_iff, BuildId]

theorem isPreIdent_iff (s : Bytes) : isPreIdent s = true ↔ PreId s := by
  simp only [isPreIdent, Bool.and_eq_true, Bool.or_eq_true, Bool.not_eq_true', List.isEmpty_eq_false_iff,
    List.all_eq_true, isIdentChar_iff, isNumIdent_iff, PreId, and_assoc]
  refine and_congr_right fun _ => and_congr_right fun _ => ?_
  rw [← allDigits_iff]
  cases allDigits s <;> simp

/-- a numeric identifier is a digit string in the form the decimal writer produces (`dec_val_of_noLead0`) -/
theorem numId_canon {t : Bytes} (h : NumId t) :
    allDigits t = true ∧ t ≠ [] ∧ (t = [48] ∨ t.head? ≠ some 48) := by
  rcases h with rfl | ⟨c, r, rfl, hc, hr⟩
  · exact ⟨rfl, nofun, Or.inl rfl⟩
  · unfold PosDigit at hc
    refine ⟨(allDigits_cons c r).mpr ⟨(isDigit_range c).mpr (by omega), (allDigits_iff r).mpr hr⟩, nofun, Or.inr ?_⟩
    rw [List.head?_cons, ne_eq, Option.some.injEq]
    omega

theorem numId_not_mem {t : Bytes} (h : NumId t) : 43 ∉ t ∧ 45 ∉ t ∧ 46 ∉ t :=
  have hd := (allDigits_iff t).mp (numId_canon h).1
  ⟨fun hm => (digit_ne (hd _ hm)).1 rfl, fun hm => (digit_ne (hd _ hm)).2.1 rfl, fun hm => (digit_ne (hd _ hm)).2.2 rfl⟩

theorem preId_buildId {s : Bytes} (h : PreId s) : BuildId s := ⟨h.1, h.2.1⟩

theorem buildId_not_mem {s : Bytes} (h : BuildId s) : 43 ∉ s ∧ 46 ∉ s :=
  ⟨fun hm => (identChar_ne (h.2 _ hm)).1 rfl, fun hm => (identChar_ne (h.2 _ hm)).2 rfl⟩

/-! ## dot-separated lists -/

theorem all_splitDot_iff {P : Bytes → Prop} {f : Bytes → Bool} (hf : ∀ i, f i = true ↔ P i)
    (hdot : ∀ i, P i → 46 ∉ i) (s : Bytes) : (splitDot s).all f = true ↔ DotList P s := by
  simp only [List.all_eq_true, hf]
  constructor
  · exact fun h => ⟨splitDot s, splitDot_eq_splitOn s ▸ List.splitOn_ne_nil 46 s, h, (joinDots_splitDot s).symm⟩
  · rintro ⟨ids, hne, hP, rfl⟩
    rwa [splitDot_joinDots hne (fun i hi => hdot i (hP i hi))]

theorem validPre_iff (p : Bytes) : validPre p = true ↔ DotList PreId p :=
  all_splitDot_iff isPreIdent_iff (fun _ h => (buildId_not_mem (preId_buildId h)).2) p

theorem validBuild_iff (b : Bytes) : validBuild b = true ↔ DotList BuildId b :=
  all_splitDot_iff isBuildIdent_iff (fun _ h => (buildId_not_mem h).2) b

theorem valid_ok_iff (v : Ver) :
    v.valid = .ok () ↔ (v.pre ≠ [] → DotList PreId v.pre) ∧ (v.build ≠ [] → DotList BuildId v.build) := by
  unfold Ver.valid
  rw [Outcome.ite_err_eq_ok, Outcome.ite_err_eq_ok, ← validPre_iff, ← validBuild_iff]
  simp

theorem dotList_pre_build {s : Bytes} (h : DotList PreId s) : DotList BuildId s := by
  obtain ⟨ids, hne, hP, rfl⟩ := h
  exact ⟨ids, hne, fun i hi => preId_buildId (hP i hi), rfl⟩

theorem dotList_build {s : Bytes} (h : DotList BuildId s) : s ≠ [] ∧ 43 ∉ s := by
  obtain ⟨ids, hne, hP, rfl⟩ := h
  refine ⟨?_, fun hm => ?_⟩
  · -- the first identifier is not empty, and the join begins with it
    match ids, hne with
    | [a], _ => exact (hP a (by simp)).1
    | a :: b :: r, _ =>
      have := (hP a (by simp)).1
      simp [joinDots, this]
  · rcases mem_joinDots hm with h | ⟨i, hi, hc⟩
    · omega
    · exact (buildId_not_mem (hP i hi)).1 hc

/-! ## optional groups and possibly-empty fields

The grammar has optional groups (`Option Bytes`), a `Ver` has fields in which the empty text stands for "absent":
`o.getD []` goes one way, `optOf` the other. -/

def optOf (x : Bytes) : Option Bytes := if x = [] then none else some x

theorem getD_optOf (x : Bytes) : (optOf x).getD [] = x := by
  unfold optOf; split <;> simp [*]

theorem optOf_getD {o : Option Bytes} (h : ∀ x, o = some x → x ≠ []) : optOf (o.getD []) = o := by
  cases o with
  | none => rfl
  | some x => exact if_neg (h x rfl)

theorem forall_optOf {P : Bytes → Prop} {x : Bytes} : (∀ p, optOf x = some p → P p) ↔ (x ≠ [] → P x) := by
  unfold optOf; split <;> simp [*]

/-! ## `shape` is the grammar -/

/-- `shape` without the destructuring `let`s -/
theorem shape_eq (s : Bytes) : shape s =
    match splitDot (cut 45 (cut 43 s).1).1 with
    | [ma, mi, pa] =>
      if (isNumIdent ma && isNumIdent mi && isNumIdent pa
          && (match (cut 45 (cut 43 s).1).2 with | none => true | some p => validPre p)
          && (match (cut 43 s).2 with | none => true | some b => validBuild b)) = true
      then some (ma, mi, pa, (cut 45 (cut 43 s).1).2.getD [], (cut 43 s).2.getD []) else none
    | _ => none := rfl

theorem optCheck_iff {f : Bytes → Bool} {P : Bytes → Prop} (hf : ∀ x, f x = true ↔ P x) (o : Option Bytes) :
    (match o with | none => true | some x => f x) = true ↔ ∀ x, o = some x → P x := by
  cases o <;> simp [hf]

theorem checks_iff (ma mi pa : Bytes) (pre? build? : Option Bytes) :
    (isNumIdent ma && isNumIdent mi && isNumIdent pa
      && (match pre? with | none => true | some p => validPre p)
      && (match build? with | none => true | some b => validBuild b)) = true ↔
    NumId ma ∧ NumId mi ∧ NumId pa ∧ (∀ p, pre? = some p → DotList PreId p) ∧
      (∀ b, build? = some b → DotList BuildId b) := by
  simp only [Bool.and_eq_true, isNumIdent_iff, optCheck_iff validPre_iff, optCheck_iff validBuild_iff, and_assoc]

/-- on a text of the grammar the first `+` is the one before the build part, the first `-` of what precedes it
the one before the pre-release part, and the dots of the rest separate the numbers -/
theorem steps_of_parts {s ma mi pa : Bytes} {pre? build? : Option Bytes} (h : Parts s ma mi pa pre? build?) :
    ∃ head core, cut 43 s = (head, build?) ∧ cut 45 head = (core, pre?) ∧ splitDot core = [ma, mi, pa] := by
  obtain ⟨hma, hmi, hpa, hp, _, rfl⟩ := h
  have ⟨a43, a45, a46⟩ := numId_not_mem hma
  have ⟨i43, i45, i46⟩ := numId_not_mem hmi
  have ⟨p43, p45, p46⟩ := numId_not_mem hpa
  refine ⟨_, _, cut_opt build? ?_, cut_opt pre? ?_, ?_⟩
  · cases pre? with
    | none => simp [a43, i43, p43]
    | some p => simp [a43, i43, p43, (dotList_build (dotList_pre_build (hp p rfl))).2]
  · simp [a45, i45, p45]
  · simpa [joinDots] using splitDot_joinDots (ids := [ma, mi, pa]) (by simp) (by simp [a46, i46, p46])

theorem shape_complete {s ma mi pa : Bytes} {pre? build? : Option Bytes} (h : Parts s ma mi pa pre? build?) :
    shape s = some (ma, mi, pa, pre?.getD [], build?.getD []) := by
  obtain ⟨head, core, h1, h2, h3⟩ := steps_of_parts h
  rw [shape_eq]
  simp only [h1, h2, h3]
  rw [if_pos ((checks_iff ..).mpr ⟨h.1, h.2.1, h.2.2.1, h.2.2.2.1, h.2.2.2.2.1⟩)]

/-- an absent group is reported as the empty text -/
theorem shape_sound {s ma mi pa pre build : Bytes} (h : shape s = some (ma, mi, pa, pre, build)) :
    Parts s ma mi pa (optOf pre) (optOf build) := by
  rw [shape_eq] at h
  split at h
  · rename_i ma' mi' pa' h3
    obtain ⟨hc, h⟩ := Option.ite_none_right_eq_some.mp h
    cases h
    obtain ⟨hma, hmi, hpa, hp, hb⟩ := (checks_iff ..).mp hc
    rw [optOf_getD fun p e => (dotList_build (dotList_pre_build (hp p e))).1,
      optOf_getD fun b e => (dotList_build (hb b e)).1]
    refine ⟨hma, hmi, hpa, hp, hb, ?_⟩
    have e3 := joinDots_splitDot (cut 45 (cut 43 s).1).1
    rw [h3] at e3
    conv => lhs; rw [(cut_spec 43 s).2, (cut_spec 45 (cut 43 s).1).2, ← e3]
    simp only [joinDots, List.append_assoc, List.cons_append, List.nil_append]
    rfl
  · cases h

/-- unique, because the scanner finds every decomposition (`steps_of_parts`) and is a function -/
theorem parts_unique {s ma mi pa ma' mi' pa' : Bytes} {pre? build? pre?' build?' : Option Bytes}
    (h : Parts s ma mi pa pre? build?) (h' : Parts s ma' mi' pa' pre?' build?') :
    ma = ma' ∧ mi = mi' ∧ pa = pa' ∧ pre? = pre?' ∧ build? = build?' := by
  obtain ⟨head, core, h1, h2, h3⟩ := steps_of_parts h
  obtain ⟨head', core', h1', h2', h3'⟩ := steps_of_parts h'
  cases h1.symm.trans h1'
  cases h2.symm.trans h2'
  cases h3.symm.trans h3'
  exact ⟨rfl, rfl, rfl, rfl, rfl⟩

theorem shape_none_iff (s : Bytes) : shape s = none ↔ ¬ SemVer s := by
  rw [Option.eq_none_iff_forall_ne_some]
  constructor
  · rintro h ⟨ma, mi, pa, pre?, build?, hp⟩
    exact h _ (shape_complete hp)
  · rintro h ⟨ma, mi, pa, pre, build⟩ hs
    exact h ⟨ma, mi, pa, _, _, shape_sound hs⟩

theorem dec_val {t : Bytes} (h : NumId t) : dec (val t) = t :=
  dec_val_of_noLead0 (numId_canon h).1 (numId_canon h).2.1 (numId_canon h).2.2

theorem numId_dec (n : Nat) : NumId (dec n) := by
  obtain ⟨c, t, h, hc, ht, h0⟩ := dec_shape n
  rw [h]
  by_cases h48 : c = 48
  · rw [h48, h0 h48]; exact Or.inl rfl
  · exact Or.inr ⟨c, t, rfl, by rw [isDigit_range] at hc; unfold PosDigit; omega, (allDigits_iff t).mp ht⟩

/-! ## the parser in closed form -/

/-- the three range checks, in the order of the code -/
def checked (a b c : Nat) (pre build : Bytes) : Outcome Ver :=
  if a ≥ two64 then .err .invalidMajor
  else if b ≥ two64 then .err .invalidMinor
  else if c ≥ two64 then .err .invalidPatch
  else .ok ⟨a, b, c, pre, build⟩

/-- what `unmarshalText` does with the text after the optional `v` -/
def parseBody (t : Bytes) : Outcome Ver :=
  match shape t with
  | none => .err .invalid
  | some (ma, mi, pa, pre, build) => checked (val ma) (val mi) (val pa) pre build

/-- the guards in the order the code checks them; the third refuses the form (`v` or not) that is not allowed -/
theorem unmarshalText_eq (maxLen : Nat) (aV aT : Bool) (s : Bytes) :
    unmarshalText maxLen aV aT s =
      if s = [] then .err .invalid
      else if maxLen ≠ 0 ∧ s.length > maxLen then .err .tooLong
      else if (if s.head? = some 118 then aT else aV) = false then
        .err (if s.head? = some 118 then .tagNotAllowed else .expectedTag)
      else parseBody (body s) := by
  cases s with
  | nil => rfl
  | cons c t =>
    unfold unmarshalText body
    simp only [List.length_cons, Nat.add_one_ne_zero, if_false, List.getElem?_cons_zero, Gen.sem_tagPrefix,
      beq_iff_eq, List.head?_cons, Option.some.injEq, List.drop_succ_cons, List.drop_zero, reduceCtorEq]
    by_cases hl : maxLen ≠ 0 ∧ t.length + 1 > maxLen
    · rw [if_pos hl, if_pos hl]
    · rw [if_neg hl, if_neg hl]
      by_cases hc : c = 118
      · simp only [hc, if_true]
        cases aT <;> rfl
      · simp only [hc, if_false]
        cases aV <;> rfl

theorem checked_ok_iff {a b c : Nat} {pre build : Bytes} {v : Ver} :
    checked a b c pre build = .ok v ↔ a < two64 ∧ b < two64 ∧ c < two64 ∧ v = ⟨a, b, c, pre, build⟩ := by
  simp only [checked, Outcome.ite_err_eq_ok, ge_iff_le, Nat.not_le, Outcome.ok.injEq, eq_comm (a := v)]

theorem checked_ends (a b c : Nat) (pre build : Bytes) :
    (checked a b c pre build).Within fun e => e = .invalidMajor ∨ e = .invalidMinor ∨ e = .invalidPatch := by
  unfold checked
  exact .ite (fun _ => .inl rfl) fun _ => .ite (fun _ => .inr (.inl rfl)) fun _ =>
    .ite (fun _ => .inr (.inr rfl)) fun _ => trivial

theorem parseBody_parts {t ma mi pa : Bytes} {pre? build? : Option Bytes} (hp : Parts t ma mi pa pre? build?) :
    parseBody t = checked (val ma) (val mi) (val pa) (pre?.getD []) (build?.getD []) := by
  unfold parseBody
  rw [shape_complete hp]

theorem parseBody_ok_iff (t : Bytes) (v : Ver) :
    parseBody t = .ok v ↔
      Parts t (dec v.major) (dec v.minor) (dec v.patch) (optOf v.pre) (optOf v.build) ∧
        v.major < two64 ∧ v.minor < two64 ∧ v.patch < two64 := by
  constructor
  · intro h
    unfold parseBody at h
    split at h
    · cases h
    · rename_i ma mi pa pre build hs
      have hp := shape_sound hs
      obtain ⟨h1, h2, h3, rfl⟩ := checked_ok_iff.mp h
      simp only
      rw [dec_val hp.1, dec_val hp.2.1, dec_val hp.2.2.1]
      exact ⟨hp, h1, h2, h3⟩
  · rintro ⟨hp, h⟩
    rw [parseBody_parts hp, val_dec, val_dec, val_dec, getD_optOf, getD_optOf]
    exact checked_ok_iff.mpr ⟨h.1, h.2.1, h.2.2, rfl⟩

theorem parseBody_invalid_iff (t : Bytes) : parseBody t = .err .invalid ↔ ¬ SemVer t := by
  constructor
  · rintro h ⟨ma, mi, pa, pre?, build?, hp⟩
    rw [parseBody_parts hp] at h
    exact (checked_ends ..).ne_err (by simp) h
  · intro h
    unfold parseBody
    rw [(shape_none_iff t).mpr h]

theorem parseBody_ends (t : Bytes) :
    (parseBody t).Within fun e => e = .invalid ∨ e = .invalidMajor ∨ e = .invalidMinor ∨ e = .invalidPatch := by
  unfold parseBody
  split
  · exact .inl rfl
  · exact (checked_ends ..).mono (fun _ => .inr) fun _ => id

theorem unmarshalText_ends (maxLen : Nat) (aV aT : Bool) (s : Bytes) :
    (unmarshalText maxLen aV aT s).Within fun e => e = .invalid ∨ (e = .tooLong ∧ maxLen ≠ 0 ∧ s.length > maxLen) ∨
      e = .tagNotAllowed ∨ e = .expectedTag ∨ e = .invalidMajor ∨ e = .invalidMinor ∨ e = .invalidPatch := by
  rw [unmarshalText_eq]
  refine .ite (fun _ => .inl rfl) fun _ => .ite (fun hl => .inr (.inl ⟨rfl, hl⟩)) fun _ => .ite (fun _ => ?_) fun _ =>
    (parseBody_ends _).mono (fun e h => ?_) fun _ => id
  · show _ ∨ _
    split <;> simp
  · rcases h with rfl | rfl | rfl | rfl <;> simp

theorem unmarshalText_ok_iff (maxLen : Nat) (aV aT : Bool) (s : Bytes) (v : Ver) :
    unmarshalText maxLen aV aT s = .ok v ↔
      s ≠ [] ∧ (maxLen = 0 ∨ s.length ≤ maxLen) ∧ (if s.head? = some 118 then aT else aV) = true ∧
      Parts (body s) (dec v.major) (dec v.minor) (dec v.patch) (optOf v.pre) (optOf v.build) ∧
        v.major < two64 ∧ v.minor < two64 ∧ v.patch < two64 := by
  simp only [unmarshalText_eq, Outcome.ite_err_eq_ok, parseBody_ok_iff, Bool.not_eq_false]
  exact and_congr_right fun _ => and_congr_left' (by omega)

theorem unmarshalText_of_guards {maxLen : Nat} {aV aT : Bool} {s : Bytes} (h0 : s ≠ [])
    (hl : maxLen = 0 ∨ s.length ≤ maxLen) (hf : (if s.head? = some 118 then aT else aV) = true) :
    unmarshalText maxLen aV aT s = parseBody (body s) := by
  rw [unmarshalText_eq, if_neg h0, if_neg (by omega), if_neg (by simp [hf])]

theorem unmarshalText_parts {maxLen : Nat} {aV aT : Bool} {s : Bytes} {v : Ver}
    (h : unmarshalText maxLen aV aT s = .ok v) :
    Parts (body s) (dec v.major) (dec v.minor) (dec v.patch) (optOf v.pre) (optOf v.build) :=
  ((unmarshalText_ok_iff ..).mp h).2.2.2.1

theorem format_tag (v : Ver) (tag : Bool) :
    format [] v tag = (if tag = true then [118] else []) ++ format [] v false := by
  cases tag <;> simp [format, Gen.sem_tagPrefix]

/-- the formatter's text in the form of `Parts`: an empty field is an absent group -/
theorem format_eq (v : Ver) :
    format [] v false = dec v.major ++ [46] ++ dec v.minor ++ [46] ++ dec v.patch
      ++ (match optOf v.pre with | some p => 45 :: p | none => [])
      ++ (match optOf v.build with | some b => 43 :: b | none => []) := by
  have opt : ∀ (x : Bytes) (sep : Nat),
      (if x.isEmpty then [] else sep :: x) = (match optOf x with | some p => sep :: p | none => []) :=
    fun x sep => by cases x <;> rfl
  unfold format
  rw [opt, opt]
  rfl

theorem parts_format_iff (v : Ver) :
    Parts (format [] v false) (dec v.major) (dec v.minor) (dec v.patch) (optOf v.pre) (optOf v.build) ↔
      v.valid = .ok () := by
  rw [valid_ok_iff]
  exact ⟨fun h => ⟨forall_optOf.mp h.2.2.2.1, forall_optOf.mp h.2.2.2.2.1⟩, fun h =>
    ⟨numId_dec _, numId_dec _, numId_dec _, forall_optOf.mpr h.1, forall_optOf.mpr h.2, format_eq v⟩⟩

theorem format_head (v : Ver) : format [] v false ≠ [] ∧ (format [] v false).head? ≠ some 118 := by
  obtain ⟨c, t, h, hc, _⟩ := dec_shape v.major
  rw [isDigit_range] at hc
  rw [format_eq, h]
  exact ⟨nofun, by simp; omega⟩

theorem tag_body (s : Bytes) : (if s.head? = some 118 then [118] else []) ++ body s = s := by
  cases s with
  | nil => rfl
  | cons c t => by_cases hc : c = 118 <;> simp [body, hc]

end U.Sem
