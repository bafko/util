import UtilModel.Model.LockProto
/-! # The lock protocol of `RandomID`: mutual exclusion, and completed calls hold consecutive pairs of the stream

`DoneOk` (the vocabulary of C19's statements) says the k-th completed call drew positions `2k` and `2k+1`; `Inv` classifies the
reachable states: nobody holds the lock and the stream stands at an even position, or exactly one thread is inside its critical
section (`InCS`) and the stream stands where that thread's draws left it. -/
namespace U.LockProto

/-- completed calls hold aligned consecutive pairs: the k-th has positions (2k, 2k+1) -/
def DoneOk : List (Nat × Nat × Nat) → Nat → Prop
  | [], _ => True
  | (_, a, b) :: rest, k => a = 2 * k ∧ b = 2 * k + 1 ∧ DoneOk rest (k + 1)

theorem doneOk_iff (l : List (Nat × Nat × Nat)) (k : Nat) :
    DoneOk l k ↔ ∀ n c, l[n]? = some c → c.2.1 = 2 * (k + n) ∧ c.2.2 = 2 * (k + n) + 1 := by
  induction l generalizing k with
  | nil => simp [DoneOk]
  | cons x xs ih =>
    obtain ⟨t, a, b⟩ := x
    rw [DoneOk, ih]
    constructor
    · rintro ⟨rfl, rfl, h⟩ n c hc
      cases n with
      | zero => cases hc; exact ⟨rfl, rfl⟩
      | succ n => have := h n c hc; omega
    · intro h
      refine ⟨(h 0 _ rfl).1, (h 0 _ rfl).2, fun n c hc => ?_⟩
      have := h (n + 1) c hc
      omega

theorem doneOk_append (l : List (Nat × Nat × Nat)) (t a k : Nat) (h : DoneOk l k) (ha : a = 2 * (k + l.length)) :
    DoneOk (l ++ [(t, a, a + 1)]) k := by
  induction l generalizing k with
  | nil => exact ⟨ha, by rw [ha]; rfl, trivial⟩
  | cons x xs ih =>
    obtain ⟨_, b, c⟩ := x
    exact ⟨h.1, h.2.1, ih (k + 1) h.2.2 (by rw [ha, List.length_cons]; omega)⟩

/-- where the lock holder stands: `pos` is the next stream position, `base` the first position of its call -/
def InCS (pos base : Nat) : PC → Prop
  | .idle => False
  | .locked => pos = base
  | .drew1 a => a = base ∧ pos = base + 1
  | .drew2 a b => a = base ∧ b = base + 1 ∧ pos = base + 2

/-- the lock is free and every thread idle, or one thread holds it and is the only one not idle; the stream
has advanced by two positions per completed call plus the holder's draws -/
structure Inv (s : St) : Prop where
  done : DoneOk s.done 0
  state : (s.holder = none ∧ (∀ u, s.pcs u = .idle) ∧ s.pos = 2 * s.done.length) ∨
    ∃ t, s.holder = some t ∧ (∀ u, u ≠ t → s.pcs u = .idle) ∧ InCS s.pos (2 * s.done.length) (s.pcs t)

theorem inv_init : Inv init := ⟨trivial, Or.inl ⟨rfl, fun _ => rfl, rfl⟩⟩

theorem setPC_self (f : Nat → PC) (t : Nat) (p : PC) : setPC f t p t = p := if_pos rfl

theorem setPC_ne (f : Nat → PC) (t u : Nat) (p : PC) (h : u ≠ t) : setPC f t p u = f u := if_neg h

theorem inv_step (s : St) (t : Nat) (h : Inv s) : Inv (step s t) := by
  obtain ⟨hdone, ⟨hfree, hidle, hpos⟩ | ⟨t', hh, hidle, hcs⟩⟩ := h
  · -- free: `t` acquires
    simp only [step, hidle t, hfree, if_true]
    exact ⟨hdone, Or.inr ⟨t, rfl, fun u hu => (setPC_ne _ _ _ _ hu).trans (hidle u),
      show InCS s.pos _ (setPC s.pcs t .locked t) by rw [setPC_self]; exact hpos⟩⟩
  · by_cases ht : t = t'
    · -- the holder moves
      subst ht
      have others : ∀ p u, u ≠ t → setPC s.pcs t p u = .idle := fun p u hu =>
        (setPC_ne _ _ _ _ hu).trans (hidle u hu)
      cases hp : s.pcs t with
      | idle => rw [hp] at hcs; exact hcs.elim
      | locked =>
        rw [hp] at hcs
        simp only [step, hp]
        exact ⟨hdone, Or.inr ⟨t, hh, others _,
          show InCS (s.pos + 1) _ (setPC s.pcs t (.drew1 s.pos) t) by rw [setPC_self]; exact ⟨hcs, by rw [hcs]⟩⟩⟩
      | drew1 a =>
        rw [hp] at hcs
        simp only [step, hp]
        exact ⟨hdone, Or.inr ⟨t, hh, others _,
          show InCS (s.pos + 1) _ (setPC s.pcs t (.drew2 a s.pos) t) by
            rw [setPC_self]; exact ⟨hcs.1, hcs.2, by rw [hcs.2]⟩⟩⟩
      | drew2 a b =>
        rw [hp] at hcs
        obtain ⟨rfl, rfl, hpos⟩ := hcs
        simp only [step, hp]
        refine ⟨doneOk_append _ _ _ 0 hdone (by rw [Nat.zero_add]), Or.inl ⟨rfl, fun u => ?_, ?_⟩⟩
        · by_cases hu : u = t
          · rw [hu]; exact setPC_self _ _ _
          · exact others _ u hu
        · simp only [List.length_append, List.length_singleton]; omega
    · -- another thread finds the lock taken
      simp only [step, hidle t ht, hh, reduceCtorEq, if_false]
      exact ⟨hdone, Or.inr ⟨t', hh, hidle, hcs⟩⟩

theorem inv_exec (sched : List Nat) : Inv (exec sched) :=
  List.foldlRecOn (motive := Inv) sched step inv_init fun s hs t _ => inv_step s t hs

theorem Inv.excl {s : St} (h : Inv s) (t u : Nat) (ht : s.pcs t ≠ .idle) (hu : s.pcs u ≠ .idle) : t = u := by
  obtain ⟨_, ⟨_, hidle, _⟩ | ⟨t', _, hidle, _⟩⟩ := h
  · exact absurd (hidle t) ht
  · rw [Classical.not_not.mp fun h => ht (hidle t h), Classical.not_not.mp fun h => hu (hidle u h)]

end U.LockProto
