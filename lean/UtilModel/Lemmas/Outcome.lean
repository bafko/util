import UtilModel.Model.Prelude
/-!
# `Outcome`: how a call can end

`o.Ends E Q`: `o` is a value satisfying `Q` or an error in `E`, never a panic. It is kept by `map` and `bind`,
so one walk through a function gives at once what its results satisfy, which errors it can report, and that it
does not panic.
-/
namespace U.Outcome
variable {α β : Type} {E E' : Err → Prop} {Q Q' : α → Prop} {R : β → Prop} {o : Outcome α}

def Ends (E : Err → Prop) (Q : α → Prop) : Outcome α → Prop
  | .ok a => Q a
  | .err e => E e
  | .panic => False

abbrev Within (E : Err → Prop) (o : Outcome α) : Prop := o.Ends E fun _ => True

theorem Ends.mono (h : o.Ends E Q) (hE : ∀ e, E e → E' e) (hQ : ∀ a, Q a → Q' a) : o.Ends E' Q' := by
  cases o with
  | ok a => exact hQ a h
  | err e => exact hE e h
  | panic => exact h

theorem Ends.map (h : o.Ends E Q) {g : α → β} (hg : ∀ a, Q a → R (g a)) : (o.map g).Ends E R := by
  cases o with
  | ok a => exact hg a h
  | err e => exact h
  | panic => exact h

theorem Ends.bind (h : o.Ends E Q) {f : α → Outcome β} (hf : ∀ a, Q a → (f a).Ends E R) : (o.bind f).Ends E R := by
  cases o with
  | ok a => exact hf a h
  | err e => exact h
  | panic => exact h

theorem Ends.ite {c : Prop} [Decidable c] {a b : Outcome α} (ha : c → a.Ends E Q) (hb : ¬c → b.Ends E Q) :
    (if c then a else b).Ends E Q := by
  split
  · exact ha ‹_›
  · exact hb ‹_›

theorem Ends.of_ok (h : o.Ends E Q) {a : α} (ho : o = .ok a) : Q a := by
  subst ho; exact h

theorem Ends.ne_panic (h : o.Ends E Q) : o ≠ .panic := by
  rintro rfl; exact h

theorem Ends.ne_err (h : o.Ends E Q) {e : Err} (he : ¬E e) : o ≠ .err e := by
  rintro rfl; exact he h

theorem Ends.of_err (h : o.Ends E Q) {e : Err} (ho : o = .err e) : E e := by
  subst ho; exact h

theorem bind_eq_ok {f : α → Outcome β} {b : β} : o.bind f = .ok b ↔ ∃ a, o = .ok a ∧ f a = .ok b := by
  cases o <;> simp [Outcome.bind]

theorem bind_eq_err {e : Err} {f : α → Outcome β} :
    o.bind f = .err e ↔ o = .err e ∨ ∃ a, o = .ok a ∧ f a = .err e := by
  cases o <;> simp [Outcome.bind]

theorem bind_eq_panic {f : α → Outcome β} : o.bind f = .panic ↔ o = .panic ∨ ∃ a, o = .ok a ∧ f a = .panic := by
  cases o <;> simp [Outcome.bind]

/-! ## guarded chains: `if g then .err e else rest` gives an outcome exactly when the guard fails and `rest` gives it -/

theorem ite_err_eq_iff {g : Prop} [Decidable g] {e : Err} {rest : Outcome α} (h : o ≠ .err e) :
    (if g then .err e else rest) = o ↔ ¬ g ∧ rest = o := by
  split <;> simp [*, h.symm]

theorem ite_err_eq_ok {g : Prop} [Decidable g] {e : Err} {rest : Outcome α} {a : α} :
    (if g then .err e else rest) = .ok a ↔ ¬ g ∧ rest = .ok a :=
  ite_err_eq_iff nofun

theorem ite_ok_eq_ok {c : Prop} [Decidable c] {e : Err} {a b : α} :
    (if c then Outcome.ok b else .err e) = .ok a ↔ c ∧ b = a := by
  split <;> simp [*]

/-! ## the input limit: `tooLong` exactly over a non-zero limit -/

theorem limit_iff {o : Outcome α} {maxLen len : Nat}
    (over : maxLen ≠ 0 → len > maxLen → o = .err .tooLong)
    (within : maxLen = 0 ∨ len ≤ maxLen → o ≠ .err .tooLong) :
    o = .err .tooLong ↔ maxLen ≠ 0 ∧ len > maxLen :=
  ⟨fun h => by
    by_cases hw : maxLen = 0 ∨ len ≤ maxLen
    · exact absurd h (within hw)
    · omega,
   fun ⟨h0, hl⟩ => over h0 hl⟩

/-- `limit_iff` for a parser whose walk ties `tooLong` to the guard -/
theorem Ends.limit_iff {maxLen len : Nat} (h : o.Ends E Q) (hE : E .tooLong → maxLen ≠ 0 ∧ len > maxLen)
    (over : maxLen ≠ 0 → len > maxLen → o = .err .tooLong) : o = .err .tooLong ↔ maxLen ≠ 0 ∧ len > maxLen :=
  Outcome.limit_iff over fun hw ho => by have := hE (h.of_err ho); omega

end U.Outcome

namespace U

theorem ite_ne {α} {c : Prop} [Decidable c] {a b x : α} (ha : a ≠ x) (hb : b ≠ x) : (if c then a else b) ≠ x := by
  split <;> assumption

end U
