import UtilModel.Model.Sem
/-! # Three-way comparison: every comparator of package `sem` is built from `cmpNat` by lexicographic
steps (`lex`); range and antisymmetry are inherited step by step -/
namespace U.Sem

def cmpNat (a b : Nat) : Int := if a < b then -1 else if b < a then 1 else 0

/-- `x` and `y` are what a three-way comparison gives for a pair of arguments and for the swapped pair:
`(-1, 1)`, `(0, 0)` or `(1, -1)`. Every step by which the comparators are built keeps this, so range and
antisymmetry are proved together, with one induction for each recursive comparator. -/
def Swapped (x y : Int) : Prop := (x = -1 ∨ x = 0 ∨ x = 1) ∧ x = -y

def lex (c r : Int) : Int := if c ≠ 0 then c else r

theorem lex_zero (r : Int) : lex 0 r = r := rfl

theorem lex_eq_zero {c r : Int} : lex c r = 0 ↔ c = 0 ∧ r = 0 := by
  unfold lex; split <;> omega

theorem Swapped.lex {c c' r r' : Int} (hc : Swapped c c') (hr : Swapped r r') : Swapped (lex c r) (lex c' r') := by
  unfold Sem.lex Swapped at *
  split <;> split <;> omega

theorem Swapped.self_eq_zero {α : Type} {f : α → α → Int} (h : ∀ a b, Swapped (f a b) (f b a)) (a : α) : f a a = 0 := by
  have := (h a a).2; omega

theorem swapped_lt : Swapped (-1) 1 := ⟨Or.inl rfl, rfl⟩
theorem swapped_eq : Swapped 0 0 := ⟨Or.inr (Or.inl rfl), rfl⟩
theorem swapped_gt : Swapped 1 (-1) := ⟨Or.inr (Or.inr rfl), rfl⟩

theorem cmpNat_of_lt {a b : Nat} (h : a < b) : cmpNat a b = -1 := if_pos h

theorem cmpNat_of_gt {a b : Nat} (h : b < a) : cmpNat a b = 1 := by
  unfold cmpNat; rw [if_neg (by omega), if_pos h]

theorem cmpNat_self (a : Nat) : cmpNat a a = 0 := by simp [cmpNat]

theorem cmpNat_swapped (a b : Nat) : Swapped (cmpNat a b) (cmpNat b a) := by
  rcases Nat.lt_trichotomy a b with h | rfl | h
  · rw [cmpNat_of_lt h, cmpNat_of_gt h]; exact swapped_lt
  · rw [cmpNat_self]; exact swapped_eq
  · rw [cmpNat_of_gt h, cmpNat_of_lt h]; exact swapped_gt

theorem cmpNat_eq_zero {a b : Nat} : cmpNat a b = 0 ↔ a = b := by
  unfold cmpNat
  split
  · omega
  · split <;> omega

/-- the Go idiom `if a < b { return -1 }; if a > b { return 1 }; …` is a lexicographic step … -/
theorem ite_lt_eq_lex (a b : Nat) (r : Int) :
    (if a < b then -1 else if b < a then 1 else r) = lex (cmpNat a b) r := by
  unfold lex cmpNat
  split
  · rfl
  · split <;> rfl

/-- … the same step as the specification writes it … -/
theorem lex_cmpNat (a b : Nat) (r : Int) : lex (cmpNat a b) r = if a ≠ b then cmpNat a b else r := by
  unfold lex; simp only [ne_eq, cmpNat_eq_zero]

/-- … and as `compareIdentifier` writes it for the lengths -/
theorem ite_ne_eq_lex (a b : Nat) (r : Int) :
    (if a ≠ b then (if a < b then -1 else 1) else r) = lex (cmpNat a b) r := by
  rw [lex_cmpNat]
  split
  · unfold cmpNat; split
    · rfl
    · rw [if_pos (by omega)]
  · rfl

theorem cmpBytes_cons (a b : Nat) (as bs : Bytes) :
    cmpBytes (a :: as) (b :: bs) = lex (cmpNat a b) (cmpBytes as bs) := ite_lt_eq_lex a b _

theorem cmpBytes_swapped (a b : Bytes) : Swapped (cmpBytes a b) (cmpBytes b a) := by
  induction a generalizing b with
  | nil => cases b with
    | nil => exact swapped_eq
    | cons _ _ => exact swapped_lt
  | cons x xs ih =>
    cases b with
    | nil => exact swapped_gt
    | cons y ys => rw [cmpBytes_cons, cmpBytes_cons]; exact (cmpNat_swapped x y).lex (ih ys)

theorem cmpBytes_refl (a : Bytes) : cmpBytes a a = 0 := Swapped.self_eq_zero cmpBytes_swapped a

theorem cmpBytes_eq_zero {a b : Bytes} : cmpBytes a b = 0 ↔ a = b := by
  refine ⟨fun h => ?_, fun h => h ▸ cmpBytes_refl a⟩
  induction a generalizing b with
  | nil => cases b with
    | nil => rfl
    | cons _ _ => cases h
  | cons x xs ih =>
    cases b with
    | nil => cases h
    | cons y ys =>
      rw [cmpBytes_cons, lex_eq_zero, cmpNat_eq_zero] at h
      rw [h.1, ih h.2]

theorem cmpSuffix_swapped (a b : Bytes) : Swapped (cmpSuffix a b) (cmpSuffix b a) := by
  unfold cmpSuffix
  rw [Bool.and_comm (allDigits b)]
  split <;> exact cmpBytes_swapped _ _

theorem cmpAlnum_swapped (a b : Bytes) : Swapped (cmpAlnum a b) (cmpAlnum b a) := by
  induction a generalizing b with
  | nil => cases b with
    | nil => exact swapped_eq
    | cons _ _ => exact swapped_lt
  | cons x xs ih =>
    cases b with
    | nil => exact swapped_gt
    | cons y ys =>
      simp only [cmpAlnum]
      by_cases h : x = y
      · subst h; simp only [if_true]; exact ih ys
      · rw [if_neg h, if_neg (fun e => h e.symm)]; exact cmpSuffix_swapped _ _

/-- the numeric branch of `compareIdentifier`: zero-trimmed, by length, then by bytes -/
def cmpNumeric (a b : Bytes) : Int :=
  lex (cmpNat (trimLeft0 a).length (trimLeft0 b).length) (cmpBytes (trimLeft0 a) (trimLeft0 b))

theorem compareIdentifier_eq (a b : Bytes) : compareIdentifier a b =
    match isNumeric a, isNumeric b with
    | true, true => cmpNumeric a b
    | true, false => -1
    | false, true => 1
    | false, false => cmpAlnum a b := by
  unfold compareIdentifier cmpNumeric
  rw [← ite_ne_eq_lex]
  cases isNumeric a <;> cases isNumeric b <;> rfl

theorem compareIdentifier_swapped (a b : Bytes) : Swapped (compareIdentifier a b) (compareIdentifier b a) := by
  rw [compareIdentifier_eq, compareIdentifier_eq]
  cases isNumeric a <;> cases isNumeric b
  · exact cmpAlnum_swapped a b
  · exact swapped_gt
  · exact swapped_lt
  · exact (cmpNat_swapped _ _).lex (cmpBytes_swapped _ _)

theorem compareIdentifier_refl (a : Bytes) : compareIdentifier a a = 0 := Swapped.self_eq_zero compareIdentifier_swapped a

theorem cmpIdents_cons (a b : Bytes) (as bs : List Bytes) :
    cmpIdents (a :: as) (b :: bs) = lex (compareIdentifier a b) (cmpIdents as bs) := by
  cases as <;> cases bs <;> rfl

theorem cmpIdents_swapped (as bs : List Bytes) : Swapped (cmpIdents as bs) (cmpIdents bs as) := by
  induction as generalizing bs with
  | nil => cases bs with
    | nil => exact swapped_eq
    | cons _ _ => exact swapped_lt
  | cons a as ih =>
    cases bs with
    | nil => exact swapped_gt
    | cons b bs => rw [cmpIdents_cons, cmpIdents_cons]; exact (compareIdentifier_swapped a b).lex (ih bs)

theorem comparePre_swapped (a b : Bytes) : Swapped (comparePre a b) (comparePre b a) := by
  unfold comparePre
  cases a.isEmpty <;> cases b.isEmpty
  · exact cmpIdents_swapped _ _
  · exact swapped_lt
  · exact swapped_gt
  · exact swapped_eq

theorem comparePre_refl (a : Bytes) : comparePre a a = 0 := Swapped.self_eq_zero comparePre_swapped a

theorem Ver.compare_eq_lex (v w : Ver) : v.compare w =
    lex (cmpNat v.major w.major) (lex (cmpNat v.minor w.minor) (lex (cmpNat v.patch w.patch)
      (comparePre v.pre w.pre))) := by
  unfold Ver.compare
  rw [← ite_lt_eq_lex, ← ite_lt_eq_lex, ← ite_lt_eq_lex]

theorem Ver.compare_same_numbers {v w : Ver} (h1 : v.major = w.major) (h2 : v.minor = w.minor) (h3 : v.patch = w.patch) :
    v.compare w = comparePre v.pre w.pre := by
  rw [Ver.compare_eq_lex, h1, h2, h3, cmpNat_self, cmpNat_self, cmpNat_self]; rfl

theorem Ver.compare_swapped (v w : Ver) : Swapped (v.compare w) (w.compare v) := by
  rw [Ver.compare_eq_lex, Ver.compare_eq_lex]
  exact (cmpNat_swapped _ _).lex ((cmpNat_swapped _ _).lex ((cmpNat_swapped _ _).lex (comparePre_swapped _ _)))

theorem Ver.compare_range (v w : Ver) : v.compare w = -1 ∨ v.compare w = 0 ∨ v.compare w = 1 :=
  (Ver.compare_swapped v w).1

theorem Ver.compare_antisymm (v w : Ver) : v.compare w = - w.compare v := (Ver.compare_swapped v w).2

end U.Sem
