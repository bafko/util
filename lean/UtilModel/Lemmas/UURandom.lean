import UtilModel.Lemmas.UUText
/-! # Mask algebra for `RandomID`

Kernel-only proofs (no `bv_decide`). Version and variant are read as a field under a mask
(`version_eq_four_iff`, `variant_eq_one_iff`); the facts about `Gen.uu_rndHigher`/`Gen.uu_rndLower` then follow by
distributing `&&&` over `|||`, `^^^` and the shifts and evaluating the operations between literal masks. -/
namespace U.UU

theorem and_xor_distrib_right (x y z : BitVec 64) : (x ^^^ y) &&& z = (x &&& z) ^^^ (y &&& z) := by
  apply BitVec.eq_of_toNat_eq
  simp only [BitVec.toNat_and, BitVec.toNat_xor, Nat.and_xor_distrib_right]

theorem shl_ushr_one (x : BitVec 64) : (x <<< 1) >>> 1 = x &&& 0x7fffffffffffffff#64 := by
  apply BitVec.eq_of_toNat_eq
  rw [BitVec.toNat_ushiftRight, BitVec.toNat_shiftLeft, BitVec.toNat_and, BitVec.toNat_ofNat,
    show (0x7fffffffffffffff : Nat) % 2 ^ 64 = 2 ^ 63 - 1 from rfl, Nat.and_two_pow_sub_one_eq_mod,
    Nat.shiftLeft_eq, Nat.shiftRight_eq_div_pow]
  omega

/-- version 4 is `0100` under the mask of bits 12–15 of `Higher` -/
theorem version_eq_four_iff (i : ID) : i.version = 4 ↔ i.hi &&& 0xf000#64 = 0x4000#64 := by
  have e1 : (i.hi >>> 12) &&& 15#64 = (i.hi &&& 0xf000#64) >>> 12 := by rw [BitVec.ushiftRight_and_distrib]; rfl
  have e2 : i.hi &&& 0xf000#64 = ((i.hi &&& 0xf000#64) >>> 12) <<< 12 := by
    rw [BitVec.shiftLeft_ushiftRight, BitVec.and_assoc]; rfl
  rw [ID.version, e1]
  constructor
  · intro h
    rw [e2, BitVec.eq_of_toNat_eq (y := 4#64) h]; rfl
  · intro h
    rw [h]; rfl

/-- variant 1 is `10` under the mask of bits 62–63 of `Lower` -/
theorem variant_eq_one_iff (i : ID) :
    i.variant = 1 ↔ i.lo &&& 0xc000000000000000#64 = 0x8000000000000000#64 := by
  rw [variant_bits, show 0xc000000000000000#64 = BitVec.twoPow 64 63 ||| BitVec.twoPow 64 62 from rfl,
    BitVec.and_or_distrib_left, BitVec.and_twoPow, BitVec.and_twoPow]
  cases i.lo.getLsbD 63 <;> cases i.lo.getLsbD 62 <;> cases i.lo.getLsbD 61 <;> decide

theorem rnd_fixed_hi (a b : BitVec 64) : Gen.uu_rndHigher a b &&& 0xf000#64 = 0x4000#64 := by
  simp only [Gen.uu_rndHigher, BitVec.and_or_distrib_right, BitVec.shiftLeft_and_distrib, BitVec.and_assoc,
    BitVec.reduceHShiftLeft, BitVec.reduceAnd, BitVec.and_zero, BitVec.zero_or, BitVec.or_zero]

theorem msb_eq_false_iff (x : BitVec 64) : x.msb = false ↔ x &&& 0x8000000000000000#64 = 0#64 := by
  rw [BitVec.msb_eq_getLsbD_last, show 0x8000000000000000#64 = BitVec.twoPow 64 63 from rfl, and_twoPow_eq_zero]

theorem rnd_fixed_lo (a b : BitVec 64) (hb : b.msb = false) :
    Gen.uu_rndLower a b &&& 0xc000000000000000#64 = 0x8000000000000000#64 := by
  have e : b = b &&& 0x7fffffffffffffff#64 := by
    rw [msb_eq_false_iff] at hb
    conv => lhs; rw [← BitVec.and_allOnes (x := b)]
    rw [show BitVec.allOnes 64 = 0x8000000000000000#64 ||| 0x7fffffffffffffff#64 from rfl, BitVec.and_or_distrib_left, hb,
      BitVec.zero_or]
  rw [e]
  simp only [Gen.uu_rndLower, BitVec.and_or_distrib_right, BitVec.ushiftRight_and_distrib, BitVec.and_assoc,
    BitVec.reduceHShiftRight, BitVec.reduceAnd, BitVec.and_zero, BitVec.zero_or]

theorem and_xor_of_and_eq_zero (x m k c : BitVec 64) (hx : x &&& k = c) (hm : m &&& k = 0#64) : (x ^^^ m) &&& k = c := by
  rw [and_xor_distrib_right, hx, hm, BitVec.xor_zero]

/-- the inverse of `RandomID` on IDs with version nibble 4 and variant bits 10 -/
theorem rnd_onto (h l : BitVec 64) (hv : h &&& 0xf000#64 = 0x4000#64)
    (hl : l &&& 0xc000000000000000#64 = 0x8000000000000000#64) :
    let a := ((h >>> 1) &&& 0x7fffffffffff8000#64) ||| (h &&& 0xfff#64)
    let b := l <<< 1
    a.msb = false ∧ b.msb = false ∧ Gen.uu_rndHigher a b = h ∧ Gen.uu_rndLower a b = l := by
  have h63 : l &&& 0x8000000000000000#64 = 0x8000000000000000#64 := by
    rw [show 0x8000000000000000#64 = 0xc000000000000000#64 &&& 0x8000000000000000#64 from rfl, ← BitVec.and_assoc, hl]; rfl
  have h62 : l &&& 0x4000000000000000#64 = 0#64 := by
    rw [show 0x4000000000000000#64 = 0xc000000000000000#64 &&& 0x4000000000000000#64 from rfl, ← BitVec.and_assoc, hl]; rfl
  refine ⟨?_, ?_, ?_, ?_⟩
  · simp only [msb_eq_false_iff, BitVec.and_or_distrib_right, BitVec.and_assoc, BitVec.reduceAnd, BitVec.and_zero,
      BitVec.or_zero]
  · rw [msb_eq_false_iff, show 0x8000000000000000#64 = 0x4000000000000000#64 <<< 1 from rfl,
      ← BitVec.shiftLeft_and_distrib, h62]; rfl
  · simp only [Gen.uu_rndHigher, BitVec.and_or_distrib_right, BitVec.shiftLeft_and_distrib, BitVec.shiftLeft_ushiftRight,
      BitVec.and_assoc, BitVec.reduceHShiftLeft, BitVec.reduceAnd, BitVec.and_zero, BitVec.or_zero, BitVec.zero_or,
      BitVec.reduceAllOnes]
    rw [← hv, ← BitVec.and_or_distrib_left, ← BitVec.and_or_distrib_left]
    simp only [BitVec.reduceOr]
    exact BitVec.and_allOnes
  · simp only [Gen.uu_rndLower]
    rw [shl_ushr_one]
    conv => lhs; rw [← h63]
    rw [← BitVec.and_or_distrib_left]
    exact BitVec.and_allOnes

end U.UU
