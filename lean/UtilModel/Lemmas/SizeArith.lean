import UtilModel.Model.Size
import UtilModel.Lemmas.Dec
import UtilModel.Spec.SizeText
/-!
# Size: unit tables, the text scanner `prepareNumber`, `Bytes[N]`

The scanner `prepareNumber` is described on renderings only (`pn_body`, `pn_unit`) and on texts without a digit in
front (`pn_nodigit`). That nothing else exists is a fact about texts, not about the scanner: `render_or_nodigit`.
-/
namespace U.Size
open U.Props.C08

theorem two64_eq : two64 = 2 ^ 64 := by decide

theorem find?_eq_of_rows {tbl : List (Bytes × Nat)} {f : Bytes → Option Nat}
    (hrow : ∀ e ∈ tbl, f e.1 = some e.2) (hkey : ∀ u, f u ≠ none → u ∈ tbl.map (·.1)) (u : Bytes) :
    (tbl.find? (fun e => e.1 == u)).map (·.2) = f u := by
  cases h : tbl.find? (fun e => e.1 == u) with
  | some e =>
    have he : e.1 = u := beq_iff_eq.mp (List.find?_some (p := fun e : Bytes × Nat => e.1 == u) h)
    rw [← he, hrow e (List.mem_of_find?_eq_some h)]; rfl
  | none =>
    cases hf : f u with
    | none => rfl
    | some m =>
      obtain ⟨e, he, rfl⟩ := List.mem_map.mp (hkey u (by rw [hf]; simp))
      simpa using List.find?_eq_none.mp h e he

/-! The spec's tables against each other and against the generated ones, by evaluation (the generated unit table is in the
extractor's canonical order: a Go map literal is unordered). -/

theorem mult_unitNames : ∀ n ∈ unitNames, mult n ≠ none := by decide

theorem mult_bigUnits : ∀ n ∈ bigUnits, mult n = none := by decide

theorem unitToValues_rows : ∀ e ∈ Gen.size_unitToValues, mult e.1 = some e.2 := by decide

theorem unitNames_keys : ∀ n ∈ unitNames, n ∈ Gen.size_unitToValues.map (·.1) := by decide

theorem zeroUnits_subset : ∀ n ∈ Gen.size_zeroUnits, n = [] ∨ n ∈ unitNames ∨ n ∈ bigUnits := by decide

theorem zeroUnits_superset : ∀ n ∈ [] :: unitNames ++ bigUnits, n ∈ Gen.size_zeroUnits := by decide

theorem mult_nil : mult [] = none := rfl

theorem div_exact_iff (a d v : Nat) (hd : 0 < d) : (a % d = 0 ∧ a / d = v) ↔ a = v * d := by
  constructor
  · rintro ⟨h, rfl⟩
    exact (Nat.div_mul_cancel (Nat.dvd_of_mod_eq_zero h)).symm
  · rintro rfl
    exact ⟨Nat.mul_mod_left _ _, Nat.mul_div_cancel _ hd⟩

/-! ## the text scanner -/

/-! ### one step (`n ≠ []`: a digit has been read; only then do `_` and U+00A0 separate) -/

theorem pn_cons (c : Nat) (t n : Bytes) : prepareNumber (c :: t) n =
    if c = 32 then prepareNumber t n
    else if !n.isEmpty && c = 95 then prepareNumber t n
    else if isDigit c then prepareNumber t (c :: n)
    else match t with
      | c1 :: t' =>
        if !n.isEmpty && c = 0xC2 && c1 = 0xA0 then prepareNumber t' n
        else (n.reverse, trimRightSp (c :: t))
      | [] => (n.reverse, trimRightSp (c :: t)) := by
  rw [prepareNumber.eq_def]
  rfl

theorem pn_digit (d : Nat) (s n : Bytes) (hd : Digit d) :
    prepareNumber (d :: s) n = prepareNumber s (d :: n) := by
  unfold Digit at hd
  rw [pn_cons, if_neg (by omega), if_neg (by simp; omega), if_pos ((isDigit_range d).mpr hd)]

theorem pn_sep (x : Sep) (s n : Bytes) (hn : n ≠ []) :
    prepareNumber (x.bytes ++ s) n = prepareNumber s n := by
  cases x with
  | sp => exact (pn_cons 32 s n).trans (if_pos rfl)
  | us => rw [Sep.bytes, List.cons_append, pn_cons, if_neg (by decide), if_pos (by simp [hn])]; rfl
  | nbsp =>
    rw [Sep.bytes, List.cons_append, pn_cons, if_neg (by decide), if_neg (by simp), if_neg (by decide)]
    exact if_pos (by simp [hn])

theorem pn_stop (c : Nat) (t n : Bytes) (h32 : c ≠ 32) (hd : ¬ Digit c)
    (hsep : n ≠ [] → c ≠ 95 ∧ ¬ [0xC2, 0xA0] <+: c :: t) :
    prepareNumber (c :: t) n = (n.reverse, trimRightSp (c :: t)) := by
  have h95 : ¬ (!n.isEmpty && c = 95) = true := by
    intro h
    simp only [Bool.and_eq_true, Bool.not_eq_true', List.isEmpty_eq_false_iff, decide_eq_true_eq] at h
    exact (hsep h.1).1 h.2
  rw [pn_cons, if_neg h32, if_neg h95, if_neg (mt (isDigit_range c).mp hd)]
  cases t with
  | nil => rfl
  | cons c1 t' =>
    refine if_neg fun h => ?_
    simp only [Bool.and_eq_true, Bool.not_eq_true', List.isEmpty_eq_false_iff, decide_eq_true_eq] at h
    obtain ⟨⟨hn, rfl⟩, rfl⟩ := h
    exact (hsep hn).2 (by simp)

theorem pn_spaces (k : Nat) (s n : Bytes) :
    prepareNumber (List.replicate k 32 ++ s) n = prepareNumber s n := by
  induction k with
  | zero => rfl
  | succ k ih => rw [List.replicate_succ, List.cons_append, pn_cons, if_pos rfl, ih]

theorem pn_seps (xs : List Sep) (s n : Bytes) (hn : n ≠ []) :
    prepareNumber (xs.flatMap Sep.bytes ++ s) n = prepareNumber s n := by
  induction xs with
  | nil => rfl
  | cons x xs ih => rw [List.flatMap_cons, List.append_assoc, pn_sep x _ n hn, ih]

theorem pn_body (ds : List (Nat × List Sep)) (s n : Bytes) (hd : ∀ p ∈ ds, Digit p.1) :
    prepareNumber (body ds ++ s) n = prepareNumber s ((digitsOf ds).reverse ++ n) := by
  induction ds generalizing n with
  | nil => rfl
  | cons p ds ih =>
    have ⟨hp, hds⟩ := List.forall_mem_cons.mp hd
    show prepareNumber ((p.1 :: p.2.flatMap Sep.bytes ++ body ds) ++ s) n = _
    rw [List.append_assoc, List.cons_append, pn_digit _ _ _ hp, pn_seps _ _ _ (by simp), ih _ hds]
    simp [digitsOf]

theorem trimRightSp_append (u : Bytes) (k : Nat) (hl : u.getLast? ≠ some 32) :
    trimRightSp (u ++ List.replicate k 32) = u := by
  unfold trimRightSp
  rw [List.reverse_append, List.reverse_replicate,
    List.dropWhile_append_of_pos fun a ha => by rw [List.eq_of_mem_replicate ha]; rfl]
  rw [List.getLast?_eq_head?_reverse] at hl
  cases hr : u.reverse with
  | nil => rw [← u.reverse_reverse, hr]; rfl
  | cons c t =>
    rw [hr] at hl
    rw [List.dropWhile_cons_of_neg (by simpa using hl), ← hr, List.reverse_reverse]

theorem nbsp_prefix_spaces (c : Nat) (t : Bytes) (k : Nat)
    (h : [0xC2, 0xA0] <+: c :: (t ++ List.replicate k 32)) : [0xC2, 0xA0] <+: c :: t := by
  match t, k with
  | [], 0 => simp at h
  | [], k + 1 => simp [List.replicate_succ] at h
  | c1 :: t, k => simpa using h

theorem pn_unit (u : Bytes) (k : Nat) (n : Bytes) (hu : UnitOk u) :
    prepareNumber (u ++ List.replicate k 32) n = (n.reverse, u) := by
  obtain ⟨h32, h95, hdig, hnb, hlast⟩ := hu
  cases u with
  | nil => rw [List.nil_append, ← List.append_nil (List.replicate k 32), pn_spaces]; rfl
  | cons c t =>
    rw [List.cons_append, pn_stop c (t ++ List.replicate k 32) n (by simpa using h32) (hdig c rfl)
      fun _ => ⟨by simpa using h95, fun h => hnb (nbsp_prefix_spaces c t k h)⟩]
    exact congrArg _ (trimRightSp_append (c :: t) k hlast)

theorem dropWhile_space_spec (l : Bytes) :
    ∃ k, l = List.replicate k 32 ++ l.dropWhile (· == 32) ∧ (l.dropWhile (· == 32)).head? ≠ some 32 := by
  refine ⟨(l.takeWhile (· == 32)).length, ?_, fun h => ?_⟩
  · have : l.takeWhile (· == 32) = List.replicate (l.takeWhile (· == 32)).length 32 :=
      List.eq_replicate_iff.mpr ⟨rfl, fun b hb => by simpa using List.all_eq_true.mp List.all_takeWhile b hb⟩
    rw [← this, List.takeWhile_append_dropWhile]
  · have := List.head?_dropWhile_not (· == 32) l
    rw [h] at this
    simp at this

theorem trimRightSp_spec (s : Bytes) :
    ∃ k, s = trimRightSp s ++ List.replicate k 32 ∧ (trimRightSp s).getLast? ≠ some 32 := by
  obtain ⟨k, h1, h2⟩ := dropWhile_space_spec s.reverse
  refine ⟨k, ?_, by rwa [trimRightSp, List.getLast?_reverse]⟩
  have := congrArg List.reverse h1
  rwa [List.reverse_reverse, List.reverse_append, List.reverse_replicate] at this

theorem tail_decomp (t : Bytes) :
    ∃ (xs : List Sep) (ds : List (Nat × List Sep)) (u : Bytes) (k : Nat),
      t = xs.flatMap Sep.bytes ++ body ds ++ u ++ List.replicate k 32 ∧ (∀ p ∈ ds, Digit p.1) ∧ UnitOk u := by
  match t with
  | [] => exact ⟨[], [], [], 0, rfl, by simp, by simp [UnitOk]⟩
  | c :: t =>
    by_cases hd : Digit c
    · obtain ⟨xs, ds, u, k, rfl, hds, hu⟩ := tail_decomp t
      exact ⟨[], (c, xs) :: ds, u, k, rfl, List.forall_mem_cons.mpr ⟨hd, hds⟩, hu⟩
    by_cases h32 : c = 32
    · obtain ⟨xs, ds, u, k, rfl, hds, hu⟩ := tail_decomp t
      exact ⟨.sp :: xs, ds, u, k, by rw [h32]; rfl, hds, hu⟩
    by_cases h95 : c = 95
    · obtain ⟨xs, ds, u, k, rfl, hds, hu⟩ := tail_decomp t
      exact ⟨.us :: xs, ds, u, k, by rw [h95]; rfl, hds, hu⟩
    by_cases hnb : [0xC2, 0xA0] <+: c :: t
    · match t, hnb with
      | c1 :: t', hnb =>
        obtain ⟨rfl, rfl⟩ : 0xC2 = c ∧ 0xA0 = c1 := by simpa using hnb
        obtain ⟨xs, ds, u, k, rfl, hds, hu⟩ := tail_decomp t'
        exact ⟨.nbsp :: xs, ds, u, k, rfl, hds, hu⟩
    · obtain ⟨k, hk, hl⟩ := trimRightSp_spec (c :: t)
      refine ⟨[], [], trimRightSp (c :: t), k, hk, by simp, ?_⟩
      generalize trimRightSp (c :: t) = u at hk hl
      cases u with
      | nil => simp [UnitOk]
      | cons c' u =>
        obtain ⟨rfl, rfl⟩ := List.cons.inj hk
        exact ⟨by simpa using h32, by simpa using h95, by simpa using hd,
          fun hp => hnb (hp.trans (List.prefix_append _ _)), hl⟩

theorem render_or_nodigit (s : Bytes) :
    (∃ lead ds unit trail, s = render lead ds unit trail ∧ WellFormed ds unit) ∨
    (∀ c, (s.dropWhile (· == 32)).head? = some c → ¬ Digit c) := by
  obtain ⟨lead, hs, _⟩ := dropWhile_space_spec s
  cases hr : s.dropWhile (· == 32) with
  | nil => exact .inr (by simp)
  | cons c t =>
    by_cases hd : Digit c
    · obtain ⟨xs, ds, u, k, rfl, hds, hu⟩ := tail_decomp t
      refine .inl ⟨lead, (c, xs) :: ds, u, k, ?_, by simp, List.forall_mem_cons.mpr ⟨hd, hds⟩, hu⟩
      rw [hs, hr]
      simp [render, body]
    · exact .inr (by simpa using hd)

theorem pn_nodigit (s : Bytes)
    (h : ∀ c, (s.dropWhile (· == 32)).head? = some c → ¬ Digit c) : (prepareNumber s []).1 = [] := by
  obtain ⟨k, hs, h32⟩ := dropWhile_space_spec s
  rw [hs, pn_spaces]
  cases hr : s.dropWhile (· == 32) with
  | nil => rfl
  | cons c t =>
    rw [hr] at h h32
    rw [pn_stop c t [] (by simpa using h32) (h c rfl) (fun h => absurd rfl h)]
    rfl

/-! ## `Bytes[N]` -/

theorem bitLen_pos (n : Nat) (h : n ≠ 0) : bitLen n = Nat.log2 n + 1 := by
  unfold bitLen; rw [if_neg h]

theorem lt_two_pow_bitLen (n : Nat) : n < 2 ^ bitLen n := by
  by_cases h : n = 0
  · subst h; decide
  · rw [bitLen_pos n h]; exact Nat.lt_log2_self

theorem two_pow_bitLen_le (n : Nat) (h : n ≠ 0) : 2 ^ (bitLen n - 1) ≤ n := by
  rw [bitLen_pos n h, Nat.add_sub_cancel]; exact Nat.log2_self_le h

theorem roundToBits_fix_iff (p s : Nat) :
    roundToBits p s = s ↔ (bitLen s ≤ p ∨ s % 2 ^ (bitLen s - p) = 0) := by
  unfold roundToBits
  by_cases hl : bitLen s ≤ p
  · simp only [hl, if_true, true_or]
  · simp only [hl, if_false, false_or, Nat.shiftRight_eq_div_pow, Nat.shiftLeft_eq]
    -- `s = q * d + r` with `r < d = 2 * half`, and `q` or `q + 1` is multiplied by `d`: equal to `s` iff `r = 0`
    have hd : 2 ^ (bitLen s - p) = 2 * 2 ^ (bitLen s - p - 1) := by
      rw [← Nat.pow_add_one', Nat.sub_one_add_one (Nat.sub_ne_zero_of_lt (Nat.lt_of_not_le hl))]
    have hhalf : 0 < 2 ^ (bitLen s - p - 1) := Nat.pow_pos (by decide)
    have hs := Nat.div_add_mod s (2 ^ (bitLen s - p))
    have hr : s % 2 ^ (bitLen s - p) < 2 ^ (bitLen s - p) := Nat.mod_lt _ (Nat.pow_pos (by decide))
    generalize 2 ^ (bitLen s - p - 1) = half at *
    generalize 2 ^ (bitLen s - p) = d at *
    generalize s % d = r at *
    rw [Nat.mul_comm] at hs
    generalize s / d = q at *
    split
    · -- rounded up: `r ≥ half > 0`, and `(q + 1) * d = s` would need `r = d`
      rename_i hc
      simp only [Bool.or_eq_true, decide_eq_true_eq, Bool.and_eq_true, beq_iff_eq] at hc
      rw [Nat.add_mul]
      generalize q * d = X at *
      omega
    · generalize q * d = X at *
      omega

theorem fits_iff (p s : Nat) :
    (bitLen s ≤ p ∨ s % 2 ^ (bitLen s - p) = 0) ↔ ∃ m e, m < 2 ^ p ∧ s = m * 2 ^ e := by
  constructor
  · intro h
    -- both cases say that the low `bitLen s - p` bits are zero
    have h0 : s % 2 ^ (bitLen s - p) = 0 :=
      h.elim (fun hl => by rw [Nat.sub_eq_zero_of_le hl]; exact Nat.mod_one s) id
    refine ⟨s / 2 ^ (bitLen s - p), bitLen s - p, ?_, ?_⟩
    · apply Nat.div_lt_of_lt_mul
      rw [← Nat.pow_add]
      exact Nat.lt_of_lt_of_le (lt_two_pow_bitLen s) (Nat.pow_le_pow_right (by decide) (by omega))
    · have := Nat.div_add_mod s (2 ^ (bitLen s - p))
      rw [h0, Nat.mul_comm] at this
      omega
  · rintro ⟨m, e, hm, hs⟩
    refine Decidable.or_iff_not_imp_left.mpr fun hl => ?_
    -- `2 ^ (bitLen s - 1) ≤ s < 2 ^ (p + e)`, so `2 ^ (bitLen s - p)` divides `2 ^ e`
    have hs0 : s ≠ 0 := by
      rintro rfl; exact hl (Nat.zero_le p)
    have h2 : s < 2 ^ (p + e) := by
      rw [hs, Nat.pow_add]
      exact (Nat.mul_lt_mul_right (Nat.pow_pos (by decide))).mpr hm
    have h3 : bitLen s - 1 < p + e :=
      (Nat.pow_lt_pow_iff_right (by decide)).mp (Nat.lt_of_le_of_lt (two_pow_bitLen_le s hs0) h2)
    have h4 : bitLen s - p ≤ e := by omega
    exact Nat.mod_eq_zero_of_dvd (Nat.dvd_trans (Nat.pow_dvd_pow 2 h4) (hs ▸ Nat.dvd_mul_left (2 ^ e) m))

theorem bytesAs_float (k : Kind) (p : Nat) (hk : (k = .float32 ∧ p = 24) ∨ (k = .float64 ∧ p = 53))
    (s : Nat) (hs64 : s < 2 ^ 64) :
    bytesAs k s = if roundToBits p s = s then (s, true) else (0, false) := by
  have key : ∀ p, p ≠ 0 →
      (if s = (if roundToBits p s ≥ two64 then 2 ^ 63 else roundToBits p s) then (roundToBits p s, true)
        else ((0 : Nat), false)) = if roundToBits p s = s then (s, true) else (0, false) := by
    intro p hp
    by_cases hge : roundToBits p s ≥ two64
    · -- the rounding reached 2^64: `s` is neither 2^63, which needs one significant bit, nor its own rounding
      have h63 : roundToBits p (2 ^ 63) = 2 ^ 63 :=
        (roundToBits_fix_iff p _).mpr ((fits_iff p _).mpr ⟨1, 63, Nat.one_lt_two_pow hp, (Nat.one_mul _).symm⟩)
      have h1 : s ≠ 2 ^ 63 := by
        rintro rfl
        rw [h63] at hge
        exact absurd hge (by decide)
      rw [if_pos hge, if_neg h1, if_neg (by rw [two64_eq] at hge; omega)]
    · rw [if_neg hge]
      by_cases hfs : roundToBits p s = s
      · rw [if_pos hfs, if_pos hfs.symm, hfs]
      · rw [if_neg hfs, if_neg (Ne.symm hfs)]
  rcases hk with ⟨rfl, rfl⟩ | ⟨rfl, rfl⟩
  · exact key 24 (by decide)
  · exact key 53 (by decide)

end U.Size
