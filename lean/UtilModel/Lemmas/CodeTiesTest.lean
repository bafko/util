import UtilModel.Model.TestKit
import UtilModel.Gen.Facts
import UtilModel.Lemmas.TieTactics
/-! # package `test`: the model agrees with the constraint predicates translated from the source on this run -/
namespace U.CodeTies

theorem isFor_tie (c : Nat) : TestKit.isForMarshal c = Gen.test_isForMarshal c ∧ TestKit.isForUnmarshal c = Gen.test_isForUnmarshal c := by
  unfold TestKit.isForMarshal TestKit.isForUnmarshal Gen.test_isForMarshal Gen.test_isForUnmarshal
  constructor <;> first | rfl | boolprop

end U.CodeTies
