import UtilModel.Lemmas.SizeEnds
import UtilModel.Lemmas.JsonTokens
/-!
# The JSON reader of package `size`: how each function can end

One walk through each function of the reader, stated with `Outcome.Ends` (`*_ends`): it does not panic,
it reports the limit errors only where they are checked (`NoLimit`), and on success it leaves what its caller relies
on: `Past` for the three readers of a member value, the nesting level for the member loop, `Accepted` for
`unmarshalJSON` and `parse`. The skip loop is also given with its fuel left open (`Skips`, `skipLoop_fuel`) and the
member loop by rounds (`readMember`, `objectLoop_succ`): `Lemmas/SizeRender.lean` runs both on rendered text.
-/
namespace U.SizeObject
open U.GoJson U.JsonTokens U.Size
open U.Outcome (Ends)
open U.Props.C12 (allSpace restAfterValue)

/-- `d'` is what a decoder with input `rest` and stack `S` has become by reading one member value: `,` or `}` comes
next, the nesting is `S` again, input was only consumed -/
def Past (rest : Bytes) (S : List TState) (d' : Dec) : Prop :=
  d'.st = .objectComma ∧ d'.stack = S ∧ d'.rest <:+ rest

theorem Past.mono {rest rest' : Bytes} {S : List TState} {d' : Dec} (h : Past rest S d') (hr : rest <:+ rest') :
    Past rest' S d' := ⟨h.1, h.2.1, h.2.2.trans hr⟩

theorem scalar_past {d d' : Dec} {tok : Tok} (hst : d.st = .objectColon) (ht : d.token = .ok (tok, d'))
    (hs : ∀ c, tok ≠ .delim c) : Past d.rest d.stack d' :=
  let ⟨h1, h2⟩ := (token_value hst ht).1 hs
  ⟨h1, h2, (token_shorter ht).1⟩

theorem decodeValue_ends {d : Dec} (hst : d.st = .objectColon) :
    (decodeValue d).Ends NoLimit fun p => Past d.rest d.stack p.2 := by
  unfold decodeValue
  split
  · exact jerr_noLimit _
  · rename_i ht
    exact (parseUintLit_ends _).map fun _ _ => scalar_past hst ht (by simp)
  · simp [Ends, NoLimit]

theorem decodeUnit_ends {d : Dec} (hst : d.st = .objectColon) :
    (decodeUnit d).Ends NoLimit fun p => Past d.rest d.stack p.2 := by
  unfold decodeUnit
  split
  · exact jerr_noLimit _
  · rename_i ht
    exact scalar_past hst ht (by simp)
  · simp [Ends, NoLimit]

/-- the depth counter of `decodeAndSkipNested` after a token -/
def depthAfter (t : Tok) (depth : Nat) : Int :=
  match t with
  | .delim c => if c == 123 || c == 91 then depth + 1 else (depth : Int) - 1
  | _ => depth

theorem skipLoop_succ (f depth : Nat) (d : Dec) :
    skipLoop (f + 1) depth d =
      match d.token with
      | .error e => .err (jerr e)
      | .ok (t, d') =>
        if depthAfter t depth = 0 then .ok d' else skipLoop f (depthAfter t depth).toNat d' := rfl

theorem depthAfter_open {c : Nat} (hc : c = 91 ∨ c = 123) (depth : Nat) :
    depthAfter (.delim c) depth = ((depth + 1 : Nat) : Int) := by
  rcases hc with rfl | rfl <;> simp [depthAfter]

theorem depthAfter_close {c : Nat} (hc : c = 93 ∨ c = 125) (depth : Nat) :
    depthAfter (.delim c) (depth + 1) = ((depth : Nat) : Int) := by
  rcases hc with rfl | rfl <;> simp [depthAfter]

theorem depthAfter_scalar {t : Tok} (h : ∀ c, t ≠ .delim c) (depth : Nat) :
    depthAfter t depth = ((depth : Nat) : Int) := by
  cases t <;> simp_all [depthAfter]

theorem skipLoop_step {f depth n : Nat} {d d' : Dec} {t : Tok} (ht : d.token = .ok (t, d'))
    (hn : depthAfter t depth = (n : Int)) :
    skipLoop (f + 1) depth d = if n = 0 then .ok d' else skipLoop f n d' := by
  rw [skipLoop_succ, ht]
  simp only [hn, Int.natCast_eq_zero, Int.toNat_natCast]

/-- with `fs` frames above the member's own frame `objectValue` (so `depth = |fs| + 1`), the skip loop can
only stop right after the delimiter that pops that frame -/
theorem skipLoop_ends {f : Nat} {d : Dec} {fs S : List TState} (hs : d.stack = fs ++ .objectValue :: S) :
    (skipLoop f (fs.length + 1) d).Ends NoLimit (Past d.rest S) := by
  induction f generalizing d fs with
  | zero => simp [skipLoop, Ends, NoLimit]
  | succ f ih =>
    cases ht : d.token with
    | error e =>
      simp only [skipLoop, ht]
      exact jerr_noLimit e
    | ok p =>
      obtain ⟨t, d1⟩ := p
      have next {fs' : List TState} (h1 : d1.stack = fs' ++ .objectValue :: S) :
          (skipLoop f (fs'.length + 1) d1).Ends NoLimit (Past d.rest S) :=
        (ih h1).mono (fun _ => id) fun _ h => h.mono (token_shorter ht).1
      rcases token_stackStep ht with ⟨c, x, rfl, hc, hx⟩ | ⟨c, p, rfl, hc, hp, hst⟩ | ⟨hnd, hx⟩
      · -- opening delimiter: one more frame
        rw [skipLoop_step ht (depthAfter_open hc _), if_neg (by omega)]
        exact next (fs' := x :: fs) (by simp [hx, hs])
      · -- closing delimiter: pops the innermost frame
        rw [hs] at hp
        rw [skipLoop_step ht (depthAfter_close hc _)]
        cases fs with
        | nil =>
          obtain ⟨rfl, h2⟩ := List.cons.inj hp
          exact ⟨hst, h2.symm, (token_shorter ht).1⟩
        | cons x fs' =>
          rw [if_neg (by simp)]
          exact next (List.cons.inj hp).2.symm
      · rw [skipLoop_step ht (depthAfter_scalar hnd _), if_neg (by omega)]
        exact next (by rw [hx, hs])

theorem decodeAndSkipNested_ends {d : Dec} (hst : d.st = .objectColon) :
    (decodeAndSkipNested d).Ends NoLimit (Past d.rest d.stack) := by
  unfold decodeAndSkipNested
  split
  · exact jerr_noLimit _
  · rename_i c d1 ht
    have hs : d1.stack = [] ++ .objectValue :: d.stack := ((token_value hst ht).2 c rfl).2.1
    exact (skipLoop_ends hs).mono (fun _ => id) fun _ h => h.mono (token_shorter ht).1
  · rename_i hnd ht
    exact scalar_past hst ht hnd

/-- every round consumes input, so more fuel than input bytes is as good as any -/
theorem skipLoop_fuel {f g depth : Nat} {d R : Dec} (h : skipLoop f depth d = .ok R)
    (hg : d.rest.length < g) : skipLoop g depth d = .ok R := by
  induction f generalizing g depth d with
  | zero => simp [skipLoop] at h
  | succ f ih =>
    obtain ⟨g, rfl⟩ := Nat.exists_eq_add_one_of_ne_zero (Nat.ne_zero_of_lt hg)
    rw [skipLoop_succ] at h ⊢
    cases ht : d.token with
    | error e => simp [ht] at h
    | ok p =>
      obtain ⟨t, d'⟩ := p
      rw [ht] at h
      dsimp only at h ⊢
      by_cases h0 : depthAfter t depth = 0
      · rwa [if_pos h0] at h ⊢
      · rw [if_neg h0] at h ⊢
        exact ih h (Nat.lt_of_lt_of_le (token_shorter ht).2 (Nat.le_of_lt_succ hg))

def Skips (depth : Nat) (d R : Dec) : Prop := ∃ f, skipLoop f depth d = .ok R

/-- the skip loop, having brought its counter to `depth` in front of `d`, returns `R`: at once if the
counter is 0 -/
def SkipsOn : Nat → Dec → Dec → Prop
  | 0, d, R => d = R
  | depth + 1, d, R => Skips (depth + 1) d R

theorem Skips.step {depth n : Nat} {d d' R : Dec} {tok : Tok} (ht : d.token = .ok (tok, d'))
    (hn : depthAfter tok depth = (n : Int)) (h : SkipsOn n d' R) : Skips depth d R := by
  cases n with
  | zero => exact ⟨1, (skipLoop_step ht hn).trans (congrArg Outcome.ok h)⟩
  | succ n =>
    obtain ⟨f, h⟩ := h
    exact ⟨f + 1, (skipLoop_step ht hn).trans h⟩

theorem Skips.congr {depth : Nat} {d d2 R : Dec} (h : d.token = d2.token) : Skips depth d2 R → Skips depth d R
  | ⟨f, hf⟩ => ⟨f, by cases f <;> simpa only [skipLoop, h] using hf⟩

/-- after a member key `decodeAndSkipNested` is the skip loop entered with counter 0 -/
theorem Skips.skipNested {d R : Dec} (hst : d.st = .objectColon) : Skips 0 d R → decodeAndSkipNested d = .ok R
  | ⟨0, h⟩ => by simp [skipLoop] at h
  | ⟨f + 1, h⟩ => by
    rw [skipLoop_succ] at h
    unfold decodeAndSkipNested
    cases ht : d.token with
    | error e => simp [ht] at h
    | ok p =>
      obtain ⟨tok, d'⟩ := p
      rw [ht] at h
      dsimp only at h ⊢
      cases tok with
      | delim c =>
        rw [depthAfter_open ((token_value hst ht).2 c rfl).1, if_neg (by omega)] at h
        exact skipLoop_fuel h (Nat.lt_succ_self _)
      | _ => exact h

/-- the round after its key token `k` (lower-cased): the key selects the reader of the value -/
def readMember (du : Bool) (k : Bytes) (v : Option Nat) (u : Option Bytes) (d : Dec) :
    Outcome (Option Nat × Option Bytes × Dec) :=
  if k == Gen.size_ObjectKeyValue then
    if v.isSome then .err .dupValue else (decodeValue d).map fun p => (some p.1, u, p.2)
  else if k == Gen.size_ObjectKeyUnit then
    if u.isSome then .err .dupUnit else (decodeUnit d).map fun p => (v, some p.1, p.2)
  else if du then .err .unexpectedKey
  else (decodeAndSkipNested d).map fun d' => (v, u, d')

theorem objectLoop_succ (mk : Nat) (du : Bool) (f i : Nat) (d : Dec) (v : Option Nat) (u : Option Bytes) :
    objectLoop mk du (f + 1) i d v u =
      if mk ≠ 0 ∧ i > mk then .err .tooBig
      else if !d.more then (newOrError v u).map (·, d)
      else match d.token with
        | .error e => .err (jerr e)
        | .ok (.str key, d1) =>
          (readMember du (lowerKey key) v u d1).bind fun p => objectLoop mk du f (i + 1) p.2.2 p.1 p.2.1
        | .ok _ => .panic := by
  rw [objectLoop]
  -- the two guards are the same on both sides; below them, `bind` goes into the branches of `readMember`
  congr 2
  cases d.token with
  | error e => rfl
  | ok p =>
    obtain ⟨tok, d1⟩ := p
    cases tok with
    | str key =>
      dsimp only [readMember]
      repeat rw [apply_ite (Outcome.bind · _)]
      congr 3
      · rcases decodeValue d1 with ⟨n, d2⟩ | e | _ <;> rfl
      · rcases decodeUnit d1 with ⟨s, d2⟩ | e | _ <;> rfl
      · rcases decodeAndSkipNested d1 with d2 | e | _ <;> rfl
    | _ => rfl

theorem readMember_ends {du : Bool} {k : Bytes} {v : Option Nat} {u : Option Bytes} {d : Dec}
    (hst : d.st = .objectColon) : (readMember du k v u d).Ends NoLimit fun p => Past d.rest d.stack p.2.2 := by
  unfold readMember
  refine .ite (fun _ => .ite (fun _ => ?_) fun _ => (decodeValue_ends hst).map fun _ => id) fun _ =>
    .ite (fun _ => .ite (fun _ => ?_) fun _ => (decodeUnit_ends hst).map fun _ => id) fun _ =>
      .ite (fun _ => ?_) fun _ => (decodeAndSkipNested_ends hst).map fun _ => id
  all_goals simp [Ends, NoLimit]

/-- `hst` is the loop invariant: at the top of every round the decoder is where a key or `}` is expected, so the
type assertion `t.(string)` on the key token cannot fail (`token_key`). When the loop succeeds it stops at the
nesting level it started at, further on in the input. -/
theorem objectLoop_ends (mk : Nat) (du : Bool) (f i : Nat) {d : Dec} (v : Option Nat) (u : Option Bytes)
    (hst : d.st = .objectStart ∨ d.st = .objectComma) :
    (objectLoop mk du f i d v u).Ends (· ≠ .tooLong) fun p => p.2.stack = d.stack ∧ p.2.rest <:+ d.rest := by
  induction f generalizing i d v u with
  | zero => simp [objectLoop, Ends]
  | succ f ih =>
    rw [objectLoop_succ]
    refine .ite (fun _ => by simp [Ends]) fun _ => .ite (fun hm => ?_) fun hm => ?_
    · exact (newOrError_ends v u).noTooLong.map fun _ _ => ⟨rfl, List.suffix_refl _⟩
    · simp only [Bool.not_eq_true', Bool.not_eq_false] at hm
      split
      · exact (jerr_noLimit _).1
      · rename_i key d1 ht
        have hk := token_key hst hm ht
        exact (readMember_ends hk.2.1).noTooLong.bind
          fun _ ⟨h1, h2, h3⟩ => (ih _ _ _ (.inr h1)).mono (fun _ => id) fun _ ⟨g1, g2⟩ =>
            ⟨g1.trans (h2.trans hk.2.2), (g2.trans h3).trans (token_shorter ht).1⟩
      · rename_i t p hns ht
        obtain ⟨tok, d1⟩ := p
        obtain ⟨⟨s, rfl⟩, _⟩ := token_key hst hm ht
        exact (hns _ _ rfl).elim

theorem first_scalar_state {s : Bytes} {tok : Tok} {d : Dec} (ht : (Dec.init s).token = .ok (tok, d))
    (hs : ∀ c, tok ≠ .delim c) : d.st = .topValue :=
  ((token_top (d := Dec.init s) rfl ht).1 hs).1

theorem expectEOF_ok_iff {d : Dec} (hst : d.st = .topValue) :
    expectEOF d = .ok () ↔ allSpace d.rest = true := by
  obtain ⟨rest, st, S⟩ := d
  simp only at hst; subst hst
  rw [← token_topValue_eof (S := S)]
  unfold expectEOF
  split
  · rename_i h; simp [h]
  · rename_i e hne h
    simp only [reduceCtorEq, false_iff, h, Except.error.injEq]
    intro he; exact hne he
  · rename_i h; simp [h]

theorem expectEOF_cases (d : Dec) :
    expectEOF d = .ok () ∨ expectEOF d = .err .unexpectedData ∨
      ∃ e, d.token = .error e ∧ e ≠ .eof ∧ expectEOF d = .err (jerr e) := by
  unfold expectEOF
  split
  · exact .inl rfl
  · rename_i e hne h
    exact .inr (.inr ⟨e, h, fun he => hne he, rfl⟩)
  · exact .inr (.inl rfl)

theorem expectEOF_ends {d : Dec} (hst : d.st = .topValue) :
    (expectEOF d).Ends NoLimit fun _ => allSpace d.rest = true := by
  rcases expectEOF_cases d with h | h | ⟨e, _, _, h⟩ <;> rw [h]
  · exact (expectEOF_ok_iff hst).mp h
  · simp [Ends, NoLimit]
  · exact jerr_noLimit e

theorem restAfterValue_scalar {mk : Nat} {r : Rule} {s : Bytes} {tok : Tok} {d : Dec}
    (ht : (Dec.init s).token = .ok (tok, d)) (hs : ∀ c, tok ≠ .delim c) :
    restAfterValue mk r s = some d.rest := by
  unfold restAfterValue
  rw [ht]
  cases tok <;> simp_all

theorem restAfterValue_object {mk : Nat} {r : Rule} {s : Bytes} {d d1 d2 : Dec} {z : Nat}
    (ht : (Dec.init s).token = .ok (.delim 123, d))
    (hl : objectLoop mk r.disallowUnknown (s.length + 2) 0 d none none = .ok (z, d1))
    (ht2 : d1.token = .ok (.delim 125, d2)) : restAfterValue mk r s = some d2.rest := by
  simp [restAfterValue, ht, hl, ht2]

/-- what acceptance by `unmarshalJSON` means: the first token has one of the three forms, with its rule on,
and the value was read to its end (an object up to and including its `}`) with only white space after it -/
def Accepted (mk : Nat) (r : Rule) (s : Bytes) : Prop :=
  (∃ tok d, (Dec.init s).token = .ok (tok, d) ∧
    ((tok = .delim 123 ∧ r.jsonObject = true) ∨ (∃ t, tok = .str t ∧ r.jsonString = true) ∨
      ∃ lit, tok = .num lit)) ∧
  ∃ rest, restAfterValue mk r s = some rest ∧ allSpace rest = true ∧ rest <:+ s ∧ rest.length < s.length

theorem unmarshalJSON_ends (mk : Nat) (r : Rule) (s : Bytes) :
    (unmarshalJSON mk r s).Ends (· ≠ .tooLong) fun _ => Accepted mk r s := by
  have scalar {tok : Tok} {d : Dec} (x : Bytes) (ht : (Dec.init s).token = .ok (tok, d))
      (hs : ∀ c, tok ≠ .delim c) (hf : (∃ t, tok = .str t ∧ r.jsonString = true) ∨ ∃ lit, tok = .num lit) :
      ((expectEOF d).bind fun _ => unmarshalText false x).Ends (· ≠ .tooLong) fun _ => Accepted mk r s :=
    (expectEOF_ends (first_scalar_state ht hs)).noTooLong.bind fun _ hsp =>
      (unmarshalText_ends _ _).noTooLong.mono (fun _ => id) fun _ _ =>
        ⟨⟨tok, d, ht, .inr hf⟩, d.rest, restAfterValue_scalar ht hs, hsp, token_shorter ht⟩
  unfold unmarshalJSON
  split
  · exact (jerr_noLimit _).1
  · rename_i c d ht
    refine .ite (fun _ => by simp [Ends]) fun hc => .ite (fun _ => by simp [Ends]) fun hr => ?_
    simp only [bne_iff_ne, ne_eq, Decidable.not_not] at hc
    subst hc
    have hd : d.st = .objectStart ∧ d.stack = [.topValue] :=
      let ⟨_, h1, h2⟩ := (token_top (d := Dec.init s) rfl ht).2 _ rfl
      ⟨h2 rfl, h1⟩
    have hw := objectLoop_ends mk r.disallowUnknown (s.length + 2) 0 none none (.inl hd.1)
    split
    · rename_i h; rwa [h] at hw
    · rename_i h; rwa [h] at hw
    · rename_i size d1 hl
      obtain ⟨hs1, hsuf⟩ := hw.of_ok hl
      split
      · simp [Ends]
      · exact (jerr_noLimit _).1
      · rename_i d2 ht2
        obtain ⟨p, hp, hst2⟩ := token_close (.inr rfl) ht2
        rw [hs1, hd.2] at hp
        obtain ⟨rfl, _⟩ := List.cons.inj hp
        exact (expectEOF_ends hst2).noTooLong.map fun _ hsp =>
          ⟨⟨_, d, ht, .inl ⟨rfl, by simpa using hr⟩⟩, d2.rest, restAfterValue_object ht hl ht2, hsp,
            ((token_shorter ht2).trans_suffix hsuf).trans_suffix (token_shorter ht).1⟩
      · simp [Ends]
  · rename_i lit d ht
    exact scalar lit ht (by simp) (.inr ⟨lit, rfl⟩)
  · rename_i t d ht
    exact .ite (fun _ => by simp [Ends]) fun hr => scalar t ht (by simp) (.inl ⟨t, rfl, by simpa using hr⟩)
  · simp [Ends]

theorem parse_ends (maxLen mk : Nat) (r : Rule) (s : Bytes) :
    (parse maxLen mk r s).Ends (fun e => e = .tooLong → maxLen ≠ 0 ∧ s.length > maxLen)
      fun _ => r.jsonString = true ∨ r.jsonObject = true → Accepted mk r s := by
  unfold parse
  refine .ite (fun h _ => h) fun _ => .ite (fun _ => ?_) fun hj => ?_
  · -- JSON mode: the JSON reader never reports `tooLong`
    exact (unmarshalJSON_ends _ _ _).mono (fun _ h h' => (h h').elim) fun _ h _ => h
  · -- text mode: neither does the text reader, and no JSON rule is on
    exact (unmarshalText_ends _ _).mono (fun _ h h' => (h.1 h').elim) fun _ _ h => (hj (by simpa using h)).elim

/-! ## form gating -/

theorem parse_text_mode (maxLen mk : Nat) (r : Rule) (s : Bytes)
    (h1 : r.jsonString = false) (h2 : r.jsonObject = false) (hl : maxLen = 0 ∨ s.length ≤ maxLen) :
    parse maxLen mk r s = unmarshalText r.disableUnit s := by
  unfold parse
  rw [if_neg (by omega)]
  simp [h1, h2]

theorem parse_json_mode (maxLen mk : Nat) (r : Rule) (s : Bytes)
    (h : r.jsonString = true ∨ r.jsonObject = true) (hl : maxLen = 0 ∨ s.length ≤ maxLen) :
    parse maxLen mk r s = unmarshalJSON mk r s := by
  unfold parse
  rw [if_neg (by omega), if_pos (by simpa using h)]

theorem unmarshalJSON_token_error {mk : Nat} {r : Rule} {s : Bytes} {e : JErr}
    (ht : (Dec.init s).token = .error e) : unmarshalJSON mk r s = .err (jerr e) := by
  unfold unmarshalJSON; rw [ht]

theorem unmarshalJSON_not_object {mk : Nat} {r : Rule} {s : Bytes} {c : Nat} {d : Dec}
    (ht : (Dec.init s).token = .ok (.delim c, d)) (hc : c ≠ 123) :
    unmarshalJSON mk r s = .err .expectedObject := by
  unfold unmarshalJSON; rw [ht]; simp [hc]

theorem unmarshalJSON_object_disabled {mk : Nat} {r : Rule} {s : Bytes} {d : Dec}
    (ht : (Dec.init s).token = .ok (.delim 123, d)) (hr : r.jsonObject = false) :
    unmarshalJSON mk r s = .err .objectDisabled := by
  unfold unmarshalJSON; rw [ht]; simp [hr]

theorem unmarshalJSON_string_disabled {mk : Nat} {r : Rule} {s t : Bytes} {d : Dec}
    (ht : (Dec.init s).token = .ok (.str t, d)) (hr : r.jsonString = false) :
    unmarshalJSON mk r s = .err .stringDisabled := by
  unfold unmarshalJSON; rw [ht]; simp [hr]

theorem unmarshalJSON_bool {mk : Nat} {r : Rule} {s : Bytes} {b : Bool} {d : Dec}
    (ht : (Dec.init s).token = .ok (.bool b, d)) : unmarshalJSON mk r s = .err .invalidType := by
  unfold unmarshalJSON; rw [ht]

theorem unmarshalJSON_null {mk : Nat} {r : Rule} {s : Bytes} {d : Dec}
    (ht : (Dec.init s).token = .ok (.null, d)) : unmarshalJSON mk r s = .err .invalidType := by
  unfold unmarshalJSON; rw [ht]

theorem unmarshalJSON_number {mk : Nat} {r : Rule} {s lit : Bytes} {d : Dec}
    (ht : (Dec.init s).token = .ok (.num lit, d)) :
    unmarshalJSON mk r s = (expectEOF d).bind fun _ => unmarshalText false lit := by
  unfold unmarshalJSON; rw [ht]

theorem unmarshalJSON_string {mk : Nat} {r : Rule} {s t : Bytes} {d : Dec}
    (ht : (Dec.init s).token = .ok (.str t, d)) (hr : r.jsonString = true) :
    unmarshalJSON mk r s = (expectEOF d).bind fun _ => unmarshalText false t := by
  unfold unmarshalJSON; rw [ht]; simp [hr]

theorem unmarshalJSON_object {mk : Nat} {r : Rule} {s : Bytes} {d : Dec}
    (ht : (Dec.init s).token = .ok (.delim 123, d)) (hr : r.jsonObject = true) :
    unmarshalJSON mk r s =
      match objectLoop mk r.disallowUnknown (s.length + 2) 0 d none none with
      | .err e => .err e
      | .panic => .panic
      | .ok (size, d1) =>
        match d1.token with
        | .error .eof => .err .unexpectedData
        | .error e => .err (jerr e)
        | .ok (.delim 125, d2) => (expectEOF d2).map fun _ => size
        | .ok _ => .err .unexpectedData := by
  unfold unmarshalJSON; rw [ht]; simp only [bne_self_eq_false, Bool.false_eq_true, if_false, hr, Bool.not_true]; rfl

/-- a top-level scalar: what was computed from it counts if only white space follows; otherwise the error
is `unexpectedData` (another token follows) or the tokenizer's own -/
theorem scalar_form {d : Dec} (hst : d.st = .topValue) (x : Outcome Nat) :
    (allSpace d.rest = true → ((expectEOF d).bind fun _ => x) = x) ∧
    (allSpace d.rest = false → ((expectEOF d).bind fun _ => x) = .err .unexpectedData ∨
        ∃ e, d.token = .error e ∧ e ≠ .eof ∧ ((expectEOF d).bind fun _ => x) = .err (jerr e)) := by
  constructor
  · intro h
    rw [(expectEOF_ok_iff hst).mpr h]; rfl
  · intro h
    rcases expectEOF_cases d with h1 | h1 | ⟨e, he, hne, h1⟩
    · rw [(expectEOF_ok_iff hst).mp h1] at h; simp at h
    · left; rw [h1]; rfl
    · right; exact ⟨e, he, hne, by rw [h1]; rfl⟩

theorem number_form {mk : Nat} {r : Rule} {s lit : Bytes} {d : Dec}
    (ht : (Dec.init s).token = .ok (.num lit, d)) :
    (allSpace d.rest = true → unmarshalJSON mk r s = unmarshalText false lit) ∧
    (allSpace d.rest = false → unmarshalJSON mk r s = .err .unexpectedData ∨
        ∃ e, d.token = .error e ∧ e ≠ .eof ∧ unmarshalJSON mk r s = .err (jerr e)) := by
  rw [unmarshalJSON_number ht]
  exact scalar_form (first_scalar_state ht (by simp)) _

theorem string_form {mk : Nat} {r : Rule} {s t : Bytes} {d : Dec}
    (ht : (Dec.init s).token = .ok (.str t, d)) (hr : r.jsonString = true) :
    (allSpace d.rest = true → unmarshalJSON mk r s = unmarshalText false t) ∧
    (allSpace d.rest = false → unmarshalJSON mk r s = .err .unexpectedData ∨
        ∃ e, d.token = .error e ∧ e ≠ .eof ∧ unmarshalJSON mk r s = .err (jerr e)) := by
  rw [unmarshalJSON_string ht hr]
  exact scalar_form (first_scalar_state ht (by simp)) _

end U.SizeObject
