import UtilModel.Lemmas.SemOrder
import UtilModel.Lemmas.Dec
/-! # Comparing zero-trimmed digit strings by (length, bytes) is numeric comparison — for all digit strings -/
namespace U.Sem

/-- numbers written in base `p`: the leading digit decides, then the rest -/
theorem cmpNat_mul_add {p u v : Nat} (d e : Nat) (hu : u < p) (hv : v < p) :
    cmpNat (d * p + u) (e * p + v) = lex (cmpNat d e) (cmpNat u v) := by
  rcases Nat.lt_trichotomy d e with h | rfl | h
  · have := Nat.mul_le_mul_right p (Nat.succ_le_of_lt h)
    rw [Nat.succ_mul] at this
    rw [cmpNat_of_lt h, cmpNat_of_lt (by omega)]; rfl
  · rw [cmpNat_self, lex_zero]
    unfold cmpNat
    simp only [Nat.add_lt_add_iff_left]
  · have := Nat.mul_le_mul_right p (Nat.succ_le_of_lt h)
    rw [Nat.succ_mul] at this
    rw [cmpNat_of_gt h, cmpNat_of_gt (by omega)]; rfl

theorem cmpBytes_eqlen (a b : List Nat) (ha : allDigits a = true) (hb : allDigits b = true) (hl : a.length = b.length) :
    cmpBytes a b = cmpNat (val a) (val b) := by
  induction a generalizing b with
  | nil => cases b with
    | nil => rfl
    | cons _ _ => simp at hl
  | cons x xs ih =>
    cases b with
    | nil => simp at hl
    | cons y ys =>
      obtain ⟨hx, hxs⟩ := (allDigits_cons x xs).mp ha
      obtain ⟨hy, hys⟩ := (allDigits_cons y ys).mp hb
      rw [isDigit_range] at hx hy
      have hl' : xs.length = ys.length := by simpa using hl
      rw [cmpBytes_cons, val_cons, val_cons, hl', cmpNat_mul_add _ _ (hl' ▸ val_lt xs hxs) (val_lt ys hys),
        ← ih ys hxs hys hl']
      congr 1
      unfold cmpNat
      simp only [show x - 48 < y - 48 ↔ x < y by omega, show y - 48 < x - 48 ↔ y < x by omega]

theorem trimLeft0_cons_ne {c : Nat} (cs : Bytes) (h : c ≠ 48) : trimLeft0 (c :: cs) = c :: cs := by
  unfold trimLeft0; split
  · rename_i heq; cases heq; exact absurd rfl h
  · rfl

theorem trimLeft0_spec (s : Bytes) :
    val (trimLeft0 s) = val s ∧ (allDigits s = true → allDigits (trimLeft0 s) = true) ∧
      (trimLeft0 s).head? ≠ some 48 := by
  induction s with
  | nil => exact ⟨rfl, id, by simp [trimLeft0]⟩
  | cons c cs ih =>
    by_cases hc : c = 48
    · subst hc
      -- `trimLeft0 (48 :: cs)` is `trimLeft0 cs`, and a leading `0` adds nothing to the value
      refine ⟨?_, fun h => ih.2.1 ((allDigits_cons _ _).mp h).2, ih.2.2⟩
      rw [val_cons]
      simpa [trimLeft0] using ih.1
    · rw [trimLeft0_cons_ne cs hc]
      exact ⟨rfl, id, by simpa using hc⟩

theorem len_lt_val_lt {a b : Bytes} (ha : allDigits a = true) (hb : allDigits b = true) (hnb : b.head? ≠ some 48)
    (hl : a.length < b.length) : val a < val b := by
  have h1 := val_lt a ha
  have h2 := val_ge hb hnb (by intro h; subst h; simp at hl)
  have : 10 ^ a.length ≤ 10 ^ (b.length - 1) := Nat.pow_le_pow_right (by decide) (by omega)
  omega

theorem cmpNumeric_spec (x y : Bytes) (hx : allDigits x = true) (hy : allDigits y = true) :
    cmpNumeric x y = cmpNat (val x) (val y) := by
  obtain ⟨vx, dx, nx⟩ := trimLeft0_spec x
  obtain ⟨vy, dy, ny⟩ := trimLeft0_spec y
  unfold cmpNumeric
  rw [← vx, ← vy]
  rcases Nat.lt_trichotomy (trimLeft0 x).length (trimLeft0 y).length with h | h | h
  · rw [cmpNat_of_lt h, cmpNat_of_lt (len_lt_val_lt (dx hx) (dy hy) ny h)]; rfl
  · rw [h, cmpNat_self, lex_zero]; exact cmpBytes_eqlen _ _ (dx hx) (dy hy) h
  · rw [cmpNat_of_gt h, cmpNat_of_gt (len_lt_val_lt (dy hy) (dx hx) nx h)]; rfl

end U.Sem
