import UtilModel.Model.Extra
import UtilModel.Model.Hist
import UtilModel.Lemmas.DateBasics
import UtilModel.Lemmas.SemOrder
/-!
# Lemmas for `Props/EXTRA.lean` (behaviour outside the twenty properties, DESIGN.md §9.5)

A version against its core; `Time()` by the day number; `orDefault` and `assign`, the bodies shared by the entry points
that read the `Formatter` / `Parser` variables, and `assign` in the vocabulary of `Model/Hist.lean`; comparison of a
`NumVal` with zero by the sign of its mantissa; the shapes of a quoted byte.
-/

namespace U.Sem

theorem comparePre_nil_right (a : Bytes) : comparePre a [] = if a = [] then 0 else -1 := by
  unfold comparePre
  cases a <;> simp

theorem comparePre_nil_left (a : Bytes) : comparePre [] a = if a = [] then 0 else 1 := by
  unfold comparePre
  cases a <;> simp

theorem compare_core (v : Ver) : v.compare v.core = if v.pre = [] then 0 else -1 := by
  rw [Ver.compare_same_numbers (v := v) (w := v.core) rfl rfl rfl]
  exact comparePre_nil_right v.pre

theorem core_compare (v : Ver) : v.core.compare v = if v.pre = [] then 0 else 1 := by
  rw [Ver.compare_same_numbers (v := v.core) (w := v) rfl rfl rfl]
  exact comparePre_nil_left v.pre

end U.Sem

namespace U.Date
open U.GoTime

theorem timeAbs_eq_ordinal (d : Date) : d.timeAbs = (d.ordinal - 1) * 86400 := rfl

theorem timeCivil_eq (d : Date) : d.timeCivil = civil d.ordinal := by
  unfold Date.timeCivil
  rw [timeAbs_eq_ordinal, Int.mul_ediv_cancel _ (by decide), Int.sub_add_cancel]

/-- a proper stored date is determined by what it reads back as -/
theorem eq_of_date_eq {d e : Date} (hd : Proper d) (he : Proper e) (h : d.date = e.date) : d = e := by
  rw [← store_date hd, ← store_date he, h]

end U.Date

namespace U.Extra

theorem orDefault_ok {V} (F D : Fmt V) (v : V) (f : Nat) (b : Bytes) (h : F [] v f = .ok b) :
    orDefault F D v f = b := by unfold orDefault; rw [h]

theorem orDefault_err {V} (F D : Fmt V) (v : V) (f t : Nat) (b : Bytes) (h : F [] v f = .err t)
    (hd : D [] v f = .ok b) : orDefault F D v f = b := by simp only [orDefault, h, hd]

theorem orDefault_self {V} (D : Fmt V) (v : V) (f : Nat) (b : Bytes) (hd : D [] v f = .ok b) :
    orDefault D D v f = b := orDefault_ok D D v f b hd

theorem toRes_err_iff (o : FOut) (t : Nat) : o.toRes = .err t ↔ o = .err t := by
  cases o <;> simp [FOut.toRes]

theorem toRes_ok_iff (o : FOut) (b : Bytes) : o.toRes = .ok b ↔ o = .ok b := by
  cases o <;> simp [FOut.toRes]

theorem toRes_ne_panic (o : FOut) : o.toRes ≠ .panic := by
  cases o <;> simp [FOut.toRes]

theorem assign_ok {V} (r v : V) : assign r (.ok v) = (v, .ok) := rfl
theorem assign_err {V} (r : V) (e : XErr) : assign r (POut.err e) = (r, .err e) := rfl
theorem assign_panic {V} (r : V) : assign r (POut.panic : POut V) = (r, .panic) := rfl

theorem assign_changes_only_on_ok {V} (r : V) (o : POut V) :
    (assign r o).2 = .ok ∨ (assign r o).1 = r := by
  cases o <;> simp [assign]

/-- translation of the result of a call under the default parser into the vocabulary of `Model/Hist.lean` -/
def PRes.toHist : PRes → Hist.Res
  | .ok => .ok | .err (.lib e) => .err e | .err (.custom _) => .unsupported | .panic => .panic

theorem keep_eq_assign {V} (r : V) (mk : V → Hist.Recv) (o : Outcome V) :
    Hist.keep (mk r) mk o = (mk (assign r (POut.ofOutcome o)).1, (assign r (POut.ofOutcome o)).2.toHist) := by
  cases o <;> rfl

end U.Extra

namespace U.Size
open U.Extra

theorem prettyWith_spec (F : Fmt Nat) (s fl : Nat) :
    (prettyWith F s fl = .panic ↔ ∃ t, F [] s fl = .err t) ∧
    (∀ b, F [] s fl = .ok b → prettyWith F s fl = .ok b) ∧ ∀ t, prettyWith F s fl ≠ .err t := by
  unfold prettyWith
  cases F [] s fl <;> simp

end U.Size

namespace U.Constraint.NumVal

theorem le_int (a b : Int) : le (.int a) (.int b) = decide (a ≤ b) := by
  simp [le, exp, scaled, mant]

theorem zero_scaled (e0 : Int) : zero.scaled e0 = 0 := Int.zero_mul _

theorem scaled_sign (x : NumVal) (e0 : Int) : (0 ≤ x.scaled e0 ↔ 0 ≤ x.mant) ∧ (x.scaled e0 ≤ 0 ↔ x.mant ≤ 0) := by
  have hp : (0 : Int) < ((2 ^ (x.exp - e0).toNat : Nat) : Int) := Int.natCast_pos.mpr (Nat.pow_pos (by decide))
  have h0 := Int.mul_le_mul_right hp (b := x.mant) (c := 0)
  rw [Int.zero_mul] at h0
  exact ⟨Int.mul_nonneg_iff_of_pos_right hp, h0⟩

/-- a comparison with zero reads the mantissa only: no power of two is computed -/
theorem zero_le (x : NumVal) : zero.le x = decide (0 ≤ x.mant) := by
  simp only [le, zero_scaled]
  exact decide_eq_decide.mpr (x.scaled_sign _).1

theorem le_zero (x : NumVal) : x.le zero = decide (x.mant ≤ 0) := by
  simp only [le, zero_scaled]
  exact decide_eq_decide.mpr (x.scaled_sign _).2

theorem le_of_mant_exp {a b : NumVal} (h0 : 0 ≤ a.mant) (hm : a.mant ≤ b.mant) (he : a.exp ≤ b.exp) : a.le b = true := by
  have hb : b.mant * 1 ≤ b.scaled a.exp :=
    Int.mul_le_mul_of_nonneg_left (Int.natCast_pos.mpr (Nat.pow_pos (by decide))) (Int.le_trans h0 hm)
  simp only [le, if_pos he, decide_eq_true_eq]
  simp only [scaled, Int.sub_self, Int.toNat_zero, Nat.pow_zero, Int.natCast_one] at hb ⊢
  omega

end U.Constraint.NumVal

namespace U.ErrMsg

/-- The three shapes of a quoted byte: one of the nine two-byte escapes, `\xhh`, or the byte itself.
    (`split` on the ten nested `if`s of `quoteByte` costs exponentially in their number, hence the membership test.) -/
theorem quoteByte_cases (c : Nat) :
    (∃ e, 32 ≤ e ∧ e ≤ 126 ∧ quoteByte c = [92, e]) ∨
    quoteByte c = 92 :: 120 :: hex2 c ∨ (32 ≤ c ∧ c ≠ 127 ∧ quoteByte c = [c]) := by
  by_cases h : c ∈ [34, 92, 7, 8, 12, 10, 13, 9, 11]
  · simp only [List.mem_cons, List.not_mem_nil, or_false] at h
    rcases h with rfl | rfl | rfl | rfl | rfl | rfl | rfl | rfl | rfl <;>
      exact .inl ⟨_, by decide, by decide, rfl⟩
  · simp only [List.mem_cons, List.not_mem_nil, or_false, not_or] at h
    simp only [quoteByte, h, if_false]
    by_cases h' : c < 32 ∨ c = 127
    · rw [if_pos h']; exact .inr (.inl rfl)
    · rw [if_neg h']; exact .inr (.inr ⟨by omega, by omega, rfl⟩)

theorem quoteBody_eq_flatMap (s : Bytes) : quoteBody s = s.flatMap quoteByte := by
  induction s with
  | nil => rfl
  | cons c s ih => rw [quoteBody, ih, List.flatMap_cons]

end U.ErrMsg
