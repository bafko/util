import UtilModel.Model.GoJson
import UtilModel.Spec.SizeJson
/-!
# The streaming tokenizer model (`GoJson.tokenF`, `Dec.token`, `Dec.more`)

`tokenF` is a chain of `if`s on the first byte after white space, and a `split` on it costs exponentially in its
depth. It is taken apart once, into one equation per byte (`tokenF_eof` … `tokenF_scalar`). `Step`, the transition
relation of the decoder, is the same read backwards (`tokenF_step`); what holds of a successful call on arbitrary
input, malformed or not, is proved by cases on `Step`. Each scalar scanner is walked once, in the form `Scans`.
-/
namespace U.JsonTokens
open U.GoJson
open U.Props.C12 (allSpace)

def Shorter (r s : Bytes) : Prop := r <:+ s ∧ r.length < s.length

theorem Shorter.of_suffix_cons {r s : Bytes} (c : Nat) (h : r <:+ s) : Shorter r (c :: s) :=
  ⟨h.trans (List.suffix_cons _ _), by simp; have := h.length_le; omega⟩

theorem Shorter.suffix {r s : Bytes} (h : Shorter r s) : r <:+ s := h.1

theorem Shorter.trans_suffix {r s u : Bytes} (h : Shorter r s) (h2 : s <:+ u) : Shorter r u :=
  ⟨h.1.trans h2, by have := h.2; have := h2.length_le; omega⟩

theorem Shorter.suffix_trans {r s u : Bytes} (h : r <:+ s) (h2 : Shorter s u) : Shorter r u :=
  ⟨h.trans h2.1, by have := h2.2; have := h.length_le; omega⟩

def Scans {β : Type} (R : β → Prop) : Except JErr β → Prop
  | .ok b => R b
  | .error e => e ≠ .eof

theorem Scans.mono {β : Type} {R R' : β → Prop} {x : Except JErr β} (h : Scans R x) (hR : ∀ b, R b → R' b) :
    Scans R' x := by
  cases x with
  | ok b => exact hR b h
  | error e => exact h

theorem scanString_scans (s acc : Bytes) : Scans (fun p => p.2 <:+ s) (scanString s acc) := by
  -- the cases in the order of the model's branches: 2 closing quote, 4 `\uXXXX`, 8 two-byte escape, 11 ordinary byte
  -- go on; 6 and 7 are the two short-`\u` errors; the rest return an error at once
  fun_induction scanString s acc with
  | case1 | case3 | case5 | case9 | case10 => nofun
  | case2 => exact List.suffix_cons _ _
  | case4 _ _ _ _ _ _ _ ih => exact ih.mono fun p h => h.trans (List.suffix_append [92, 117, _, _, _, _] _)
  | case6 | case7 => split <;> nofun
  | case8 _ _ _ _ _ ih => exact ih.mono fun p h => h.trans (List.suffix_append [92, _] _)
  | case11 _ _ _ _ _ _ ih => exact ih.mono fun p h => h.trans (List.suffix_cons _ _)

theorem scanLit_scans (want s : Bytes) : Scans (· <:+ s) (scanLit want s) := by
  fun_induction scanLit want s with
  | case1 => exact List.suffix_refl _
  | case2 | case4 => nofun
  | case3 _ _ _ ih => exact ih.mono fun p h => h.trans (List.suffix_cons _ _)

/-! ## `scanNumber` in named stages -/
def negPart (s : Bytes) : Bytes × Bytes :=
  match s with | 45 :: t => ([45], t) | _ => ([], s)
def intPart (s1 : Bytes) : Except JErr (Bytes × Bytes) :=
  match s1 with
  | [] => .error .unexpectedEOF
  | 48 :: t => .ok ([48], t)
  | c :: t => if isDigit c then .ok (c :: (spanDigits t).1, (spanDigits t).2) else .error .syntax
def fracPart (s2 : Bytes) : Except JErr (Bytes × Bytes) :=
  match s2 with
  | 46 :: t =>
    match t with
    | [] => .error .unexpectedEOF
    | c :: _ => if isDigit c then .ok (46 :: (spanDigits t).1, (spanDigits t).2) else .error .syntax
  | _ => .ok ([], s2)
def sgnPart (t : Bytes) : Bytes × Bytes :=
  match t with | 43 :: u => ([43], u) | 45 :: u => ([45], u) | _ => ([], t)
def expPart (s3 : Bytes) : Except JErr (Bytes × Bytes) :=
  match s3 with
  | e :: t =>
    if e == 101 || e == 69 then
      match (sgnPart t).2 with
      | [] => .error .unexpectedEOF
      | c :: _ =>
        if isDigit c then .ok (e :: (sgnPart t).1 ++ (spanDigits (sgnPart t).2).1, (spanDigits (sgnPart t).2).2)
        else .error .syntax
    else .ok ([], s3)
  | [] => .ok ([], s3)

/-- `Except.bind` with the pair taken apart, in the `match` that `scanNumber` is written with: with `Except.bind`
itself `scanNumber_stages` is not `rfl` -/
def andThen {β : Type} (x : Except JErr (Bytes × Bytes)) (g : Bytes → Bytes → Except JErr β) : Except JErr β :=
  match x with
  | .error e => .error e
  | .ok (a, r) => g a r

theorem scanNumber_stages (s : Bytes) : scanNumber s =
    andThen (intPart (negPart s).2) fun ip s2 => andThen (fracPart s2) fun fp s3 => andThen (expPart s3) fun ep s4 =>
      .ok ((negPart s).1 ++ ip ++ fp ++ ep, s4) := rfl

theorem Scans.andThen {β : Type} {R : Bytes × Bytes → Prop} {R' : β → Prop} {x : Except JErr (Bytes × Bytes)}
    {g : Bytes → Bytes → Except JErr β} (h : Scans R x) (hg : ∀ a r, R (a, r) → Scans R' (g a r)) :
    Scans R' (andThen x g) := by
  cases x with
  | error e => exact h
  | ok b => exact hg b.1 b.2 h

theorem spanDigits_suffix (s : Bytes) : (spanDigits s).2 <:+ s := by
  induction s with
  | nil => simp [spanDigits]
  | cons c t ih =>
    simp only [spanDigits]
    split
    · exact ih.trans (List.suffix_cons _ _)
    · exact List.suffix_refl _

theorem intPart_scans (s : Bytes) : Scans (fun p => Shorter p.2 s) (intPart s) := by
  unfold intPart
  split
  · nofun
  · exact ⟨List.suffix_cons _ _, by simp⟩
  · split
    · exact .of_suffix_cons _ (spanDigits_suffix _)
    · nofun

theorem fracPart_scans (s : Bytes) : Scans (fun p => p.2 <:+ s) (fracPart s) := by
  unfold fracPart
  split
  · split
    · nofun
    · split
      · exact (spanDigits_suffix _).trans (List.suffix_cons _ _)
      · nofun
  · exact List.suffix_refl _

theorem sgnPart_suffix (t : Bytes) : (sgnPart t).2 <:+ t := by
  unfold sgnPart
  split
  · exact List.suffix_cons _ _
  · exact List.suffix_cons _ _
  · exact List.suffix_refl _

theorem expPart_scans (s : Bytes) : Scans (fun p => p.2 <:+ s) (expPart s) := by
  unfold expPart
  split
  · split
    · split
      · nofun
      · split
        · exact ((spanDigits_suffix _).trans (sgnPart_suffix _)).trans (List.suffix_cons _ _)
        · nofun
    · exact List.suffix_refl _
  · exact List.suffix_refl _

theorem negPart_suffix (s : Bytes) : (negPart s).2 <:+ s := by
  unfold negPart
  split
  · exact List.suffix_cons _ _
  · exact List.suffix_refl _

theorem scanNumber_scans (s : Bytes) : Scans (fun p => Shorter p.2 s) (scanNumber s) := by
  rw [scanNumber_stages]
  exact (intPart_scans _).andThen fun _ _ h2 => (fracPart_scans _).andThen fun _ _ h3 =>
    (expPart_scans _).andThen fun _ _ h4 => Shorter.suffix_trans (h4.trans h3) (h2.trans_suffix (negPart_suffix s))

/-- none of `[ ] { } : ,`: such a byte can only start a scalar -/
def Plain (c : Nat) : Prop := c ≠ 91 ∧ c ≠ 93 ∧ c ≠ 123 ∧ c ≠ 125 ∧ c ≠ 58 ∧ c ≠ 44

instance : DecidablePred Plain := fun _ => inferInstanceAs (Decidable (_ ∧ _))

theorem scanScalar_scans (c : Nat) (t : Bytes) :
    Scans (fun p => Shorter p.2 (c :: t) ∧ (∀ k, p.1 ≠ .delim k) ∧ (c = 34 → ∃ s, p.1 = .str s) ∧
        isSpace c = false ∧ Plain c)
      (scanScalar (c :: t)) := by
  unfold scanScalar
  split
  · contradiction
  · rename_i h; cases h
    have h := scanString_scans t []
    generalize scanString t [] = x at h ⊢
    cases x with
    | ok p => exact ⟨.of_suffix_cons _ h, nofun, fun _ => ⟨_, rfl⟩, by decide⟩
    | error e => exact h
  · rename_i h; cases h
    have h := scanLit_scans [114, 117, 101] t
    generalize scanLit [114, 117, 101] t = x at h ⊢
    cases x with
    | ok r => exact ⟨.of_suffix_cons _ h, nofun, nofun, by decide⟩
    | error e => exact h
  · rename_i h; cases h
    have h := scanLit_scans [97, 108, 115, 101] t
    generalize scanLit [97, 108, 115, 101] t = x at h ⊢
    cases x with
    | ok r => exact ⟨.of_suffix_cons _ h, nofun, nofun, by decide⟩
    | error e => exact h
  · rename_i h; cases h
    have h := scanLit_scans [117, 108, 108] t
    generalize scanLit [117, 108, 108] t = x at h ⊢
    cases x with
    | ok r => exact ⟨.of_suffix_cons _ h, nofun, nofun, by decide⟩
    | error e => exact h
  · rename_i h34 _ _ _ h; cases h
    split
    · rename_i hc
      have h := scanNumber_scans (c :: t)
      generalize scanNumber (c :: t) = x at h ⊢
      cases x with
      | ok p =>
        refine ⟨h, nofun, fun hc => (h34 hc).elim, ?_⟩
        simp only [isDigit, isSpace, Plain, Bool.or_eq_true, beq_iff_eq, Bool.and_eq_true, decide_eq_true_eq,
          Bool.or_eq_false_iff, beq_eq_false_iff_ne] at hc ⊢
        omega
      | error e => exact h
    · nofun

theorem scanScalar_ok {c : Nat} {t r : Bytes} {tok : Tok} (h : scanScalar (c :: t) = .ok (tok, r)) :
    Shorter r (c :: t) ∧ (∀ k, tok ≠ .delim k) ∧ (c = 34 → ∃ s, tok = .str s) ∧ isSpace c = false ∧ Plain c := by
  have := scanScalar_scans c t
  rwa [h] at this

theorem skipSpace_suffix (s : Bytes) : skipSpace s <:+ s := by
  induction s with
  | nil => simp [skipSpace]
  | cons c t ih =>
    unfold skipSpace
    split
    · exact ih.trans (List.suffix_cons _ _)
    · exact List.suffix_refl _

theorem skipSpace_eq_nil {s : Bytes} : skipSpace s = [] ↔ allSpace s = true := by
  induction s with
  | nil => simp [skipSpace, allSpace]
  | cons c t ih =>
    unfold skipSpace
    by_cases hc : isSpace c = true
    · rw [if_pos hc, ih]; simp [allSpace, hc]
    · rw [if_neg hc]; simp [allSpace, hc]

theorem skipSpace_cons {c : Nat} (t : Bytes) (hc : isSpace c = false) : skipSpace (c :: t) = c :: t := by
  simp [skipSpace, hc]

section
variable {f c : Nat} {rest t : Bytes} {st : TState} {S : List TState}

theorem tokenF_eof (h : skipSpace rest = []) : tokenF (f + 1) ⟨rest, st, S⟩ = .error .eof := by
  simp only [tokenF, h]

theorem tokenF_arrOpen (h : skipSpace rest = 91 :: t) :
    tokenF (f + 1) ⟨rest, st, S⟩ =
      if valueAllowed st then .ok (.delim 91, ⟨t, .arrayStart, st :: S⟩) else .error .syntax := by
  cases hv : valueAllowed st <;> simp [tokenF, h, hv]

theorem tokenF_objOpen (h : skipSpace rest = 123 :: t) :
    tokenF (f + 1) ⟨rest, st, S⟩ =
      if valueAllowed st then .ok (.delim 123, ⟨t, .objectStart, st :: S⟩) else .error .syntax := by
  cases hv : valueAllowed st <;> simp [tokenF, h, hv]

theorem tokenF_arrClose {p : TState} (h : skipSpace rest = 93 :: t) :
    tokenF (f + 1) ⟨rest, st, p :: S⟩ =
      if st = .arrayStart ∨ st = .arrayComma then .ok (.delim 93, ⟨t, valueEnd p, S⟩) else .error .syntax := by
  simp [tokenF, h, ← not_or, ite_not]

theorem tokenF_objClose {p : TState} (h : skipSpace rest = 125 :: t) :
    tokenF (f + 1) ⟨rest, st, p :: S⟩ =
      if st = .objectStart ∨ st = .objectComma then .ok (.delim 125, ⟨t, valueEnd p, S⟩) else .error .syntax := by
  simp [tokenF, h, ← not_or, ite_not]

/-- unreachable from `Dec.init`: the stack is non-empty inside a container -/
theorem tokenF_close_nil (h : skipSpace rest = c :: t) (hc : c = 93 ∨ c = 125) :
    tokenF (f + 1) ⟨rest, st, []⟩ = .error .syntax := by
  rcases hc with rfl | rfl <;> simp [tokenF, h]

theorem tokenF_colon (h : skipSpace rest = 58 :: t) :
    tokenF (f + 1) ⟨rest, st, S⟩ =
      if st = .objectColon then tokenF f ⟨t, .objectValue, S⟩ else .error .syntax := by
  simp [tokenF, h]

theorem tokenF_comma (h : skipSpace rest = 44 :: t) :
    tokenF (f + 1) ⟨rest, st, S⟩ =
      if st = .arrayComma then tokenF f ⟨t, .arrayValue, S⟩
      else if st = .objectComma then tokenF f ⟨t, .objectKey, S⟩ else .error .syntax := by
  simp [tokenF, h]

def scalarTok (st : TState) (S : List TState) : Except JErr (Tok × Bytes) → Except JErr (Tok × Dec)
  | .ok (tok, r) => .ok (tok, ⟨r, st, S⟩)
  | .error e => .error e

theorem tokenF_scalar (h : skipSpace rest = c :: t) (hc : Plain c) :
    tokenF (f + 1) ⟨rest, st, S⟩ =
      if c = 34 ∧ (st = .objectStart ∨ st = .objectKey) then scalarTok .objectColon S (scanScalar (c :: t))
      else if valueAllowed st then scalarTok (valueEnd st) S (scanScalar (c :: t))
      else .error .syntax := by
  obtain ⟨h1, h2, h3, h4, h5, h6⟩ := hc
  cases hv : valueAllowed st <;> simp [tokenF, h, h1, h2, h3, h4, h5, h6, hv] <;> rfl

end

theorem plain_or (c : Nat) : c = 91 ∨ c = 93 ∨ c = 123 ∨ c = 125 ∨ c = 58 ∨ c = 44 ∨ Plain c := by
  unfold Plain; omega

/-- One successful call of `Token`, by the first byte after white space: in which states it is accepted
and what it leaves. A `:` or `,` is skipped and the call goes on in the state the separator leads to. -/
inductive Step : Dec → Tok → Dec → Prop
  | arrOpen {rest t st S} : skipSpace rest = 91 :: t → valueAllowed st = true →
      Step ⟨rest, st, S⟩ (.delim 91) ⟨t, .arrayStart, st :: S⟩
  | objOpen {rest t st S} : skipSpace rest = 123 :: t → valueAllowed st = true →
      Step ⟨rest, st, S⟩ (.delim 123) ⟨t, .objectStart, st :: S⟩
  | arrClose {rest t st p S} : skipSpace rest = 93 :: t → st = .arrayStart ∨ st = .arrayComma →
      Step ⟨rest, st, p :: S⟩ (.delim 93) ⟨t, valueEnd p, S⟩
  | objClose {rest t st p S} : skipSpace rest = 125 :: t → st = .objectStart ∨ st = .objectComma →
      Step ⟨rest, st, p :: S⟩ (.delim 125) ⟨t, valueEnd p, S⟩
  | colon {rest t S tok d'} : skipSpace rest = 58 :: t → Step ⟨t, .objectValue, S⟩ tok d' →
      Step ⟨rest, .objectColon, S⟩ tok d'
  | commaArr {rest t S tok d'} : skipSpace rest = 44 :: t → Step ⟨t, .arrayValue, S⟩ tok d' →
      Step ⟨rest, .arrayComma, S⟩ tok d'
  | commaObj {rest t S tok d'} : skipSpace rest = 44 :: t → Step ⟨t, .objectKey, S⟩ tok d' →
      Step ⟨rest, .objectComma, S⟩ tok d'
  | key {rest t st S tok r} : skipSpace rest = 34 :: t → st = .objectStart ∨ st = .objectKey →
      scanScalar (34 :: t) = .ok (tok, r) → Step ⟨rest, st, S⟩ tok ⟨r, .objectColon, S⟩
  | value {rest c t st S tok r} : skipSpace rest = c :: t → valueAllowed st = true →
      scanScalar (c :: t) = .ok (tok, r) → Step ⟨rest, st, S⟩ tok ⟨r, valueEnd st, S⟩

theorem ite_ok {α : Type} {p : Prop} [Decidable p] {x : Except JErr α} {e : JErr} {y : α}
    (h : (if p then x else .error e) = .ok y) : p ∧ x = .ok y := by
  split at h
  · exact ⟨‹_›, h⟩
  · cases h

theorem scalarTok_ok {st : TState} {S : List TState} {x : Except JErr (Tok × Bytes)} {tok : Tok} {d' : Dec}
    (h : scalarTok st S x = .ok (tok, d')) : ∃ r, x = .ok (tok, r) ∧ d' = ⟨r, st, S⟩ := by
  unfold scalarTok at h
  split at h
  · cases h; exact ⟨_, rfl, rfl⟩
  · cases h

theorem tokenF_step {f : Nat} {d : Dec} {tok : Tok} {d' : Dec} (h : tokenF f d = .ok (tok, d')) :
    Step d tok d' := by
  induction f generalizing d with
  | zero => cases h
  | succ f ih =>
    obtain ⟨rest, st, S⟩ := d
    cases hsk : skipSpace rest with
    | nil => cases (tokenF_eof hsk).symm.trans h
    | cons c t =>
      rcases plain_or c with rfl | rfl | rfl | rfl | rfl | rfl | hc
      · obtain ⟨hv, h⟩ := ite_ok (tokenF_arrOpen hsk ▸ h)
        cases h; exact .arrOpen hsk hv
      · cases S with
        | nil => cases (tokenF_close_nil hsk (.inl rfl)).symm.trans h
        | cons p S =>
          obtain ⟨hv, h⟩ := ite_ok (tokenF_arrClose hsk ▸ h)
          cases h; exact .arrClose hsk hv
      · obtain ⟨hv, h⟩ := ite_ok (tokenF_objOpen hsk ▸ h)
        cases h; exact .objOpen hsk hv
      · cases S with
        | nil => cases (tokenF_close_nil hsk (.inr rfl)).symm.trans h
        | cons p S =>
          obtain ⟨hv, h⟩ := ite_ok (tokenF_objClose hsk ▸ h)
          cases h; exact .objClose hsk hv
      · obtain ⟨rfl, h'⟩ := ite_ok (tokenF_colon hsk ▸ h)
        exact .colon hsk (ih h')
      · rw [tokenF_comma hsk] at h
        split at h
        · subst st; exact .commaArr hsk (ih h)
        · obtain ⟨rfl, h'⟩ := ite_ok h
          exact .commaObj hsk (ih h')
      · rw [tokenF_scalar hsk hc] at h
        split at h
        · obtain ⟨r, hs, rfl⟩ := scalarTok_ok h
          obtain ⟨rfl, hk⟩ := ‹c = 34 ∧ _›
          exact .key hsk hk hs
        · obtain ⟨hv, h⟩ := ite_ok h
          obtain ⟨r, hs, rfl⟩ := scalarTok_ok h
          exact .value hsk hv hs

theorem more_eq {rest t : Bytes} {c : Nat} (h : skipSpace rest = c :: t) (st : TState) (S : List TState) :
    Dec.more ⟨rest, st, S⟩ = (c != 93 && c != 125) := by
  simp only [Dec.more, h]

/-- the effect of one token on the stack of open containers -/
def StackStep (d : Dec) (tok : Tok) (d' : Dec) : Prop :=
  (∃ c x, tok = .delim c ∧ (c = 91 ∨ c = 123) ∧ d'.stack = x :: d.stack) ∨
  (∃ c p, tok = .delim c ∧ (c = 93 ∨ c = 125) ∧ d.stack = p :: d'.stack ∧ d'.st = valueEnd p) ∨
  ((∀ c, tok ≠ .delim c) ∧ d'.stack = d.stack)

theorem Step.stackStep {d d' : Dec} {tok : Tok} (h : Step d tok d') : StackStep d tok d' := by
  induction h with
  | arrOpen => exact .inl ⟨91, _, rfl, .inl rfl, rfl⟩
  | objOpen => exact .inl ⟨123, _, rfl, .inr rfl, rfl⟩
  | arrClose => exact .inr (.inl ⟨93, _, rfl, .inl rfl, rfl, rfl⟩)
  | objClose => exact .inr (.inl ⟨125, _, rfl, .inr rfl, rfl, rfl⟩)
  | colon _ _ ih => exact ih
  | commaArr _ _ ih => exact ih
  | commaObj _ _ ih => exact ih
  | key _ _ hs => exact .inr (.inr ⟨(scanScalar_ok hs).2.1, rfl⟩)
  | value _ _ hs => exact .inr (.inr ⟨(scanScalar_ok hs).2.1, rfl⟩)

theorem Step.shorter {d d' : Dec} {tok : Tok} (h : Step d tok d') : Shorter d'.rest d.rest := by
  have skip {rest t : Bytes} {c : Nat} (hsk : skipSpace rest = c :: t) : Shorter t rest :=
    (Shorter.of_suffix_cons c (List.suffix_refl t)).trans_suffix (hsk ▸ skipSpace_suffix rest)
  induction h with
  | arrOpen hsk | objOpen hsk | arrClose hsk | objClose hsk => exact skip hsk
  | colon hsk _ ih | commaArr hsk _ ih | commaObj hsk _ ih => exact ih.trans_suffix (skip hsk).1
  | key hsk _ hs | value hsk _ hs => exact (scanScalar_ok hs).1.trans_suffix (hsk ▸ skipSpace_suffix _)

/-- a token read where a value may start, in state `st` = `topValue` or `objectValue` above the stack `S`:
a scalar leaves the state that follows a value, an opening delimiter pushes `st` -/
def ValueStep (st : TState) (S : List TState) (tok : Tok) (d' : Dec) : Prop :=
  ((∀ c, tok ≠ .delim c) → d'.st = valueEnd st ∧ d'.stack = S) ∧
  ∀ c, tok = .delim c → (c = 91 ∨ c = 123) ∧ d'.stack = st :: S ∧ (c = 123 → d'.st = .objectStart)

theorem Step.valueStep {rest : Bytes} {st : TState} {S : List TState} {tok : Tok} {d' : Dec}
    (hst : st = .topValue ∨ st = .objectValue) (h : Step ⟨rest, st, S⟩ tok d') : ValueStep st S tok d' := by
  cases h with
  | arrOpen => exact ⟨fun hs => (hs _ rfl).elim, fun c hc => by cases hc; exact ⟨.inl rfl, rfl, nofun⟩⟩
  | objOpen => exact ⟨fun hs => (hs _ rfl).elim, fun c hc => by cases hc; exact ⟨.inr rfl, rfl, fun _ => rfl⟩⟩
  | value _ _ hs => exact ⟨fun _ => ⟨rfl, rfl⟩, fun c hc => ((scanScalar_ok hs).2.1 c hc).elim⟩
  | arrClose _ h | objClose _ h | key _ h => rcases hst with rfl | rfl <;> simp at h
  | colon | commaArr | commaObj => simp at hst

theorem Step.of_objectKey {rest : Bytes} {S : List TState} {tok : Tok} {d' : Dec} (h : Step ⟨rest, .objectKey, S⟩ tok d') :
    (∃ s, tok = .str s) ∧ d'.st = .objectColon ∧ d'.stack = S := by
  cases h with
  | key _ _ hs => exact ⟨(scanScalar_ok hs).2.2.1 rfl, rfl, rfl⟩
  | arrOpen _ h | objOpen _ h | value _ h | arrClose _ h | objClose _ h => simp [valueAllowed] at h

/-- What the type assertion `t.(string)` in the member loop of `unmarshalJSONObject` rests on: where a member key
is expected — state `objectStart`/`objectComma` with `More() = true` — the next token is a string. -/
theorem token_key {d : Dec} {tok : Tok} {d' : Dec} (hst : d.st = .objectStart ∨ d.st = .objectComma)
    (hm : d.more = true) (h : d.token = .ok (tok, d')) :
    (∃ s, tok = .str s) ∧ d'.st = .objectColon ∧ d'.stack = d.stack := by
  obtain ⟨rest, st, S⟩ := d
  have hs := tokenF_step h
  rcases hst with rfl | rfl
  · cases hs with
    | key _ _ hs => exact ⟨(scanScalar_ok hs).2.2.1 rfl, rfl, rfl⟩
    | objClose hsk => simp [more_eq hsk] at hm
    | arrOpen _ hv | objOpen _ hv | value _ hv | arrClose _ hv => simp [valueAllowed] at hv
  · cases hs with
    | commaObj _ hk => exact hk.of_objectKey
    | objClose hsk => simp [more_eq hsk] at hm
    | arrOpen _ hv | objOpen _ hv | value _ hv | arrClose _ hv | key _ hv => simp [valueAllowed] at hv

theorem token_value {d : Dec} {tok : Tok} {d' : Dec} (hst : d.st = .objectColon)
    (h : d.token = .ok (tok, d')) : ValueStep .objectValue d.stack tok d' := by
  obtain ⟨rest, st, S⟩ := d
  subst hst
  cases tokenF_step h with
  | colon _ hv => exact hv.valueStep (.inr rfl)
  | arrOpen _ hv | objOpen _ hv | value _ hv | arrClose _ hv | objClose _ hv | key _ hv =>
    simp [valueAllowed] at hv

theorem token_top {d : Dec} {tok : Tok} {d' : Dec} (hst : d.st = .topValue)
    (h : d.token = .ok (tok, d')) : ValueStep .topValue d.stack tok d' := by
  obtain ⟨rest, st, S⟩ := d
  subst hst
  exact (tokenF_step h).valueStep (.inl rfl)

theorem token_stackStep {d : Dec} {tok : Tok} {d' : Dec} (h : d.token = .ok (tok, d')) :
    StackStep d tok d' := (tokenF_step h).stackStep

theorem token_close {d d' : Dec} {c : Nat} (hc : c = 93 ∨ c = 125) (h : d.token = .ok (.delim c, d')) :
    ∃ p, d.stack = p :: d'.stack ∧ d'.st = valueEnd p := by
  rcases token_stackStep h with ⟨c', x, h0, hc', _⟩ | ⟨c', p, _, _, hp⟩ | ⟨h0, _⟩
  · cases h0; omega
  · exact ⟨p, hp⟩
  · exact (h0 _ rfl).elim

theorem token_shorter {d : Dec} {tok : Tok} {d' : Dec} (h : d.token = .ok (tok, d')) :
    Shorter d'.rest d.rest := (tokenF_step h).shorter

/-- at the top level `Token` reports `io.EOF` exactly when only white space is left -/
theorem token_topValue_eof {rest : Bytes} {S : List TState} :
    Dec.token ⟨rest, .topValue, S⟩ = .error .eof ↔ allSpace rest = true := by
  rw [← skipSpace_eq_nil]
  unfold Dec.token
  cases hsk : skipSpace rest with
  | nil => simp [tokenF_eof hsk]
  | cons c t =>
    simp only [reduceCtorEq, iff_false]
    rcases plain_or c with rfl | rfl | rfl | rfl | rfl | rfl | hc
    · simp [tokenF_arrOpen hsk, valueAllowed]
    · cases S <;> simp [tokenF_close_nil hsk, tokenF_arrClose hsk]
    · simp [tokenF_objOpen hsk, valueAllowed]
    · cases S <;> simp [tokenF_close_nil hsk, tokenF_objClose hsk]
    · simp [tokenF_colon hsk]
    · simp [tokenF_comma hsk]
    · rw [tokenF_scalar hsk hc]
      cases hs : scanScalar (c :: t) with
      | ok p => simp [scalarTok, valueAllowed]
      | error e =>
        -- a scalar scanner never reports `eof`
        have he : e ≠ .eof := by have := scanScalar_scans c t; rwa [hs] at this
        simp [scalarTok, valueAllowed, he]

end U.JsonTokens
