import UtilModel.Model.GoTime
/-! # The calendar model is a bijection between valid dates and day numbers, monotone in (y, m, d) -/
namespace U.GoTime

theorem isLeap_iff (y : Int) : isLeap y = true ↔ (y % 4 = 0 ∧ y % 100 ≠ 0) ∨ y % 400 = 0 := by
  simp [isLeap]

theorem dby_cycle (a b c d : Int) (hb : 0 ≤ b ∧ b ≤ 3) (hc : 0 ≤ c ∧ c ≤ 24) (hd : 0 ≤ d ∧ d ≤ 3) :
    dby (1 + 400 * a + 100 * b + 4 * c + d) = 146097 * a + 36524 * b + 1461 * c + 365 * d := by
  unfold dby
  omega

/-- Euclidean division with quotient and remainder as variables -/
theorem divMod_spec (n k : Int) (hk : 0 < k) : ∃ q r, n / k = q ∧ n % k = r ∧ n = k * q + r ∧ 0 ≤ r ∧ r < k :=
  ⟨_, _, rfl, rfl, (Int.mul_ediv_add_emod n k).symm, Int.emod_nonneg n (Int.ne_of_gt hk), Int.emod_lt_of_pos n hk⟩

/-- Go's cycle arithmetic inverts the day count: year and day-of-year of a zero-based day number -/
theorem yearOf_spec (n : Int) :
    dby (yearOf n).1 + (yearOf n).2 = n ∧ 0 ≤ (yearOf n).2 ∧ (yearOf n).2 < yearLen (yearOf n).1 := by
  unfold yearOf
  simp only
  -- every quotient and remainder is replaced by a variable with its linear facts, and what is no longer needed is
  -- cleared: `omega` pays for each `/`, `%` and hypothesis it is shown, in every call
  obtain ⟨a, r0, ha, hr0, h0⟩ := divMod_spec n 146097 (by decide)
  rw [ha, hr0]
  clear ha hr0
  obtain ⟨b', s0, hb', -, h1⟩ := divMod_spec r0 36524 (by decide)
  rw [hb']
  clear hb'
  generalize hb : (if b' = 4 then 3 else b') = b
  generalize hr1 : r0 - 36524 * b = r1
  have hbb : 0 ≤ b ∧ b ≤ 3 ∧ 0 ≤ r1 ∧ r1 ≤ 36524 ∧ (b ≠ 3 → r1 < 36524) := by split at hb <;> omega
  clear hb h1 s0
  obtain ⟨c, r2, hc, hr2, h2⟩ := divMod_spec r1 1461 (by decide)
  rw [hc, hr2]
  clear hc hr2
  obtain ⟨d', s2, hd', -, h3⟩ := divMod_spec r2 365 (by decide)
  rw [hd']
  clear hd'
  generalize hd : (if d' = 4 then 3 else d') = d
  -- a 366th day occurs only in the last year of a 4-year group that is not cut short by the end of a century
  have hdb : 0 ≤ d ∧ d ≤ 3 ∧ 0 ≤ r2 - 365 * d ∧ r2 - 365 * d ≤ 365 ∧
      (r2 - 365 * d = 365 → d = 3 ∧ (c ≠ 24 ∨ b = 3)) := by
    split at hd <;> omega
  clear hd h3 s2
  rw [dby_cycle a b c d ⟨hbb.1, hbb.2.1⟩ (by omega) ⟨hdb.1, hdb.2.1⟩]
  have hl : r2 - 365 * d = 365 → isLeap (1 + 400 * a + 100 * b + 4 * c + d) = true := by
    intro h; rw [isLeap_iff]; omega
  refine ⟨by omega, hdb.2.2.1, ?_⟩
  unfold yearLen
  split
  · omega
  · have := mt hl ‹_›; omega

theorem dby_succ (y : Int) : dby (y + 1) = dby y + yearLen y := by
  unfold yearLen dby
  rw [Int.add_sub_cancel]
  simp only [isLeap_iff]
  split <;> omega

theorem dby_mono {a b : Int} (h : a ≤ b) : dby a ≤ dby b := by
  unfold dby; omega

theorem yearLen_pos (y : Int) : 365 ≤ yearLen y ∧ yearLen y ≤ 366 := by
  unfold yearLen; split <;> omega

/-- years are consecutive blocks of day numbers: day numbers order like (year, position in the year) -/
theorem dby_add_lt_iff {y y' r r' : Int} (hr : 0 ≤ r ∧ r < yearLen y) (hr' : 0 ≤ r' ∧ r' < yearLen y') :
    dby y + r < dby y' + r' ↔ y < y' ∨ (y = y' ∧ r < r') := by
  have key : ∀ a b : Int, a < b → dby a + yearLen a ≤ dby b := by
    intro a b h
    have := dby_mono (show a + 1 ≤ b by omega)
    rwa [dby_succ] at this
  rcases Int.lt_trichotomy y y' with h | rfl | h
  · have := key _ _ h; omega
  · omega
  · have := key _ _ h; omega

/-- valid calendar date (spec) -/
def ValidDate (y : Int) (m : Nat) (d : Int) : Prop := 1 ≤ m ∧ m ≤ 12 ∧ 1 ≤ d ∧ d ≤ daysIn y m

instance (y : Int) (m : Nat) (d : Int) : Decidable (ValidDate y m d) := by unfold ValidDate; infer_instance

theorem daysIn_le (y : Int) (m : Nat) : 28 ≤ daysIn y m ∧ daysIn y m ≤ 31 := by
  unfold daysIn daysInL; split <;> split <;> omega

theorem ValidDate.bounds {y : Int} {m : Nat} {d : Int} (hv : ValidDate y m d) : 1 ≤ m ∧ m ≤ 12 ∧ 1 ≤ d ∧ d ≤ 31 := by
  have := daysIn_le y m
  unfold ValidDate at hv
  omega

/-- cumulative days before month `m` -/
def cum (leap : Bool) (m : Nat) : Int := dbm m + (if leap && decide (3 ≤ m) then 1 else 0)

theorem cum_succ (leap : Bool) (m : Nat) (h1 : 1 ≤ m) (h12 : m ≤ 12) :
    cum leap (m + 1) = cum leap m + daysInL leap m := by
  have hm : m = 1 ∨ m = 2 ∨ m = 3 ∨ m = 4 ∨ m = 5 ∨ m = 6 ∨ m = 7 ∨ m = 8 ∨ m = 9 ∨ m = 10 ∨ m = 11 ∨ m = 12 := by omega
  cases leap <;> rcases hm with rfl | rfl | rfl | rfl | rfl | rfl | rfl | rfl | rfl | rfl | rfl | rfl <;> decide

theorem cum_mono (leap : Bool) (k m : Nat) (hk : 1 ≤ k) (hkm : k ≤ m) (hm : m ≤ 13) : cum leap k ≤ cum leap m := by
  induction m with
  | zero => omega
  | succ m ih =>
    by_cases h : k = m + 1
    · subst h; exact Int.le_refl _
    · have := ih (by omega) (by omega)
      rw [cum_succ leap m (by omega) (by omega)]
      omega

/-- months are consecutive blocks of days of the year: they order like (month, day) -/
theorem cum_add_lt_iff (leap : Bool) {m m' : Nat} {d d' : Int} (hm : 1 ≤ m ∧ m ≤ 12) (hm' : 1 ≤ m' ∧ m' ≤ 12)
    (hd : 1 ≤ d ∧ d ≤ daysInL leap m) (hd' : 1 ≤ d' ∧ d' ≤ daysInL leap m') :
    cum leap m + d < cum leap m' + d' ↔ m < m' ∨ (m = m' ∧ d < d') := by
  have key : ∀ a b : Nat, 1 ≤ a → a < b → b ≤ 12 → cum leap a + daysInL leap a ≤ cum leap b := by
    intro a b ha hab hb
    have := cum_mono leap (a + 1) b (by omega) (by omega) (by omega)
    rwa [cum_succ leap a ha (by omega)] at this
  rcases Nat.lt_trichotomy m m' with h | rfl | h
  · have := key _ _ hm.1 h hm'.2; omega
  · omega
  · have := key _ _ hm'.1 h hm.2; omega

theorem cum_eq (y : Int) (m : Nat) : cum (isLeap y) m = dbm m + leapAdj y m := rfl

theorem cum_one (leap : Bool) : cum leap 1 = 0 := by cases leap <;> rfl

theorem yearLen_eq_cum (y : Int) : yearLen y = cum (isLeap y) 13 := by
  unfold yearLen cum; cases isLeap y <;> rfl

theorem yday_bounds {y : Int} {m : Nat} {d : Int} (hv : ValidDate y m d) :
    0 ≤ dbm m + leapAdj y m + d - 1 ∧ dbm m + leapAdj y m + d - 1 < yearLen y := by
  obtain ⟨h1, h12, hd1, hd⟩ := hv
  have hlo := cum_mono (isLeap y) 1 m (by omega) h1 (by omega)
  have hhi := cum_mono (isLeap y) (m + 1) 13 (by omega) (by omega) (by omega)
  rw [cum_succ _ m h1 h12] at hhi
  have c1 := cum_one (isLeap y)
  rw [yearLen_eq_cum, ← cum_eq]
  unfold daysIn at hd
  omega

theorem monthDayFrom_valid (leap : Bool) (f k : Nat) (yd : Int) (hk : 1 ≤ k) (hf : k + f = 12)
    (h0 : 0 ≤ yd) (h1 : yd < cum leap 13 - cum leap k) :
    ∃ m d, monthDayFrom leap f k yd = (m, d) ∧ k ≤ m ∧ m ≤ 12 ∧ 1 ≤ d ∧ d ≤ daysInL leap m ∧
      cum leap m + d = cum leap k + yd + 1 := by
  induction f generalizing k yd with
  | zero =>
    have : k = 12 := by omega
    subst this
    have h13 : cum leap 13 = cum leap 12 + daysInL leap 12 := cum_succ leap 12 (by omega) (by omega)
    exact ⟨12, yd + 1, rfl, by omega⟩
  | succ f ih =>
    simp only [monthDayFrom]
    have hs := cum_succ leap k hk (by omega)
    by_cases h : yd < daysInL leap k
    · rw [if_pos h]
      exact ⟨k, yd + 1, rfl, by omega⟩
    · rw [if_neg h]
      obtain ⟨m, d, e, h2, h3, h4, h5, h6⟩ := ih (k + 1) (yd - daysInL leap k) (by omega) (by omega) (by omega) (by omega)
      exact ⟨m, d, e, by omega, h3, h4, h5, by omega⟩

theorem monthDay_valid (y : Int) (yd : Int) (h : 0 ≤ yd ∧ yd < yearLen y) :
    ∃ m d, monthDay (isLeap y) yd = (m, d) ∧ ValidDate y m d ∧ dbm m + leapAdj y m + d = yd + 1 := by
  have c1 := cum_one (isLeap y)
  rw [yearLen_eq_cum] at h
  obtain ⟨m, d, e, h2, h3, h4, h5, h6⟩ :=
    monthDayFrom_valid (isLeap y) 11 1 yd (by omega) (by omega) h.1 (by omega)
  exact ⟨m, d, e, ⟨h2, h3, h4, h5⟩, by rw [← cum_eq]; omega⟩

theorem ordinal_civil (n : Int) :
    ValidDate (civil n).1 (civil n).2.1 (civil n).2.2 ∧ ordinal (civil n).1 (civil n).2.1 (civil n).2.2 = n := by
  obtain ⟨h1, h2, h3⟩ := yearOf_spec (n - 1)
  obtain ⟨m, d, hmd, hv, hs⟩ := monthDay_valid (yearOf (n - 1)).1 (yearOf (n - 1)).2 ⟨h2, h3⟩
  unfold civil
  simp only [hmd]
  refine ⟨hv, ?_⟩
  unfold ordinal
  omega

theorem ordinal_lt_iff {y y' : Int} {m m' : Nat} {d d' : Int} (hv : ValidDate y m d) (hv' : ValidDate y' m' d') :
    ordinal y m d < ordinal y' m' d' ↔ y < y' ∨ (y = y' ∧ (m < m' ∨ (m = m' ∧ d < d'))) := by
  have hy := dby_add_lt_iff (yday_bounds hv) (yday_bounds hv')
  unfold ordinal
  by_cases h : y = y'
  · subst h
    have hm := cum_add_lt_iff (isLeap y) ⟨hv.1, hv.2.1⟩ ⟨hv'.1, hv'.2.1⟩ ⟨hv.2.2.1, hv.2.2.2⟩ ⟨hv'.2.2.1, hv'.2.2.2⟩
    rw [cum_eq, cum_eq] at hm
    omega
  · omega

/-- `civil` is a right inverse of `ordinal`, which is injective on valid dates: it is the inverse -/
theorem civil_ordinal {y : Int} {m : Nat} {d : Int} (hv : ValidDate y m d) :
    civil (ordinal y m d) = (y, m, d) := by
  obtain ⟨hv', ho⟩ := ordinal_civil (ordinal y m d)
  have h1 := ordinal_lt_iff hv hv'
  have h2 := ordinal_lt_iff hv' hv
  simp only [Prod.ext_iff]
  omega

end U.GoTime
