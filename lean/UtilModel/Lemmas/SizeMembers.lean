import UtilModel.Spec.SizeJson
import UtilModel.Lemmas.SizeEnds
/-!
# The abstract object semantics `evalMembers`

`evalLoop` is `runSteps` with the key limit on top and `finish` at the end (`evalLoop_eq`), and a successful
`runSteps` is described by the `value`, `unit` and unknown members whatever their order (`runSteps_ok_iff`: each
slot is written at most once, `ValTrack`/`UnitTrack`). Acceptance ⇔ `Denotes`, its invariance under permutations
and permitted unknown members, and rejection ⇔ `Defect` are read off the two.
-/
namespace U.Props.C12
open U.Size U.Outcome

/-! ## the loop is `runSteps`, the key limit and `finish` -/

theorem evalLoop_eq (mk : Nat) (du : Bool) (i : Nat) (v : Option Nat) (u : Option Bytes) (ms : List Member) :
    evalLoop mk du i v u ms =
      if mk = 0 ∨ i + ms.length ≤ mk then (runSteps du v u ms).bind fun p => finish p.1 p.2
      else (runSteps du v u (ms.take (mk + 1 - i))).bind fun _ => .err .tooBig := by
  induction ms generalizing i v u with
  | nil =>
    simp only [evalLoop, runSteps, List.take_nil, Outcome.bind, List.length_nil, Nat.add_zero]
    by_cases h : mk = 0 ∨ i ≤ mk
    · rw [if_pos h, if_neg (by omega)]
    · rw [if_neg h, if_pos (by omega)]
  | cons m ms ih =>
    simp only [evalLoop, List.length_cons]
    by_cases hi : mk ≠ 0 ∧ i > mk
    · rw [if_pos hi, if_neg (by omega), Nat.sub_eq_zero_of_le hi.2]
      rfl
    · rw [if_neg hi]
      by_cases hc : mk = 0 ∨ i + (ms.length + 1) ≤ mk
      · rw [if_pos hc]
        simp only [runSteps]
        cases step du v u m with
        | ok p => exact (ih ..).trans (if_pos (by omega))
        | err e => rfl
        | panic => rfl
      · -- `mk - i` written `mk + 1 - (i + 1)`, as the induction hypothesis has it
        rw [if_neg hc, Nat.succ_sub (by omega), List.take_succ_cons, ← Nat.add_sub_add_right mk 1 i]
        simp only [runSteps]
        cases step du v u m with
        | ok p => exact (ih ..).trans (if_neg (by omega))
        | err e => rfl
        | panic => rfl

theorem evalMembers_eq (mk : Nat) (du : Bool) (ms : List Member) :
    evalMembers mk du ms =
      if mk = 0 ∨ ms.length ≤ mk then (runSteps du none none ms).bind fun p => finish p.1 p.2
      else (runSteps du none none (ms.take (mk + 1))).bind fun _ => .err .tooBig := by
  simpa [evalMembers] using evalLoop_eq mk du 0 none none ms

/-! ## what neither `runSteps` nor `finish` returns: a panic, a limit error -/

theorem step_ends (du : Bool) (v : Option Nat) (u : Option Bytes) (m : Member) :
    (step du v u m).Within NoLimit := by
  unfold step
  split
  · refine .ite (fun _ => by simp [Ends, NoLimit]) fun _ => ?_
    split
    · exact (parseUintLit_ends _).map fun _ => id
    · simp [Ends, NoLimit]
  · refine .ite (fun _ => by simp [Ends, NoLimit]) fun _ => ?_
    split <;> simp [Ends, NoLimit]
  · exact .ite (fun _ => by simp [Ends, NoLimit]) fun _ => trivial

theorem finish_eq (v : Option Nat) (u : Option Bytes) : finish v u = newOrError v u := by
  unfold finish newOrError
  split <;> rfl

theorem finish_ends (v : Option Nat) (u : Option Bytes) : (finish v u).Within NoLimit :=
  finish_eq v u ▸ newOrError_ends v u

theorem runSteps_cons (du : Bool) (v : Option Nat) (u : Option Bytes) (m : Member) (ms : List Member) :
    runSteps du v u (m :: ms) = (step du v u m).bind fun p => runSteps du p.1 p.2 ms := by
  simp only [runSteps]
  cases step du v u m <;> rfl

theorem runSteps_ends (du : Bool) (v : Option Nat) (u : Option Bytes) (ms : List Member) :
    (runSteps du v u ms).Within NoLimit := by
  induction ms generalizing v u with
  | nil => trivial
  | cons m ms ih => exact runSteps_cons .. ▸ (step_ends du v u m).bind fun _ _ => ih _ _

theorem finish_ne (v : Option Nat) (u : Option Bytes) : finish v u ≠ .panic ∧ finish v u ≠ .err .tooBig :=
  ⟨(finish_ends ..).ne_panic, (finish_ends ..).ne_err (·.2 rfl)⟩

theorem runSteps_ne (du : Bool) (v : Option Nat) (u : Option Bytes) (ms : List Member) :
    runSteps du v u ms ≠ .panic ∧ runSteps du v u ms ≠ .err .tooBig :=
  ⟨(runSteps_ends ..).ne_panic, (runSteps_ends ..).ne_err (·.2 rfl)⟩

theorem runSteps_cons_value {du : Bool} {v : Option Nat} {u : Option Bytes} {m : Member} {ms : List Member}
    {p : Option Nat × Option Bytes} (hk : kind m = .value) :
    runSteps du v u (m :: ms) = .ok p ↔
      v = none ∧ ∃ lit n, m.2 = .num lit ∧ parseUintLit lit = .ok n ∧ runSteps du (some n) u ms = .ok p := by
  obtain ⟨k, x⟩ := m
  cases v with
  | some _ => simp [runSteps, step, hk]
  | none =>
    cases x with
    | num lit => cases hp : parseUintLit lit <;> simp [runSteps, step, hk, hp, Outcome.map]
    | _ => simp [runSteps, step, hk]

theorem runSteps_cons_unit {du : Bool} {v : Option Nat} {u : Option Bytes} {m : Member} {ms : List Member}
    {p : Option Nat × Option Bytes} (hk : kind m = .unit) :
    runSteps du v u (m :: ms) = .ok p ↔ u = none ∧ ∃ s, m.2 = .str s ∧ runSteps du v (some s) ms = .ok p := by
  obtain ⟨k, x⟩ := m
  cases u <;> cases x <;> simp [runSteps, step, hk]

theorem runSteps_cons_unknown {du : Bool} {v : Option Nat} {u : Option Bytes} {m : Member} {ms : List Member}
    {p : Option Nat × Option Bytes} (hk : kind m = .unknown) :
    runSteps du v u (m :: ms) = .ok p ↔ du = false ∧ runSteps du v u ms = .ok p := by
  cases du <;> simp [runSteps, step, hk]

theorem vals_cons (m : Member) (ms : List Member) :
    vals (m :: ms) = if kind m = .value then m :: vals ms else vals ms := by
  simp only [vals, List.filter_cons, decide_eq_true_eq]

theorem units_cons (m : Member) (ms : List Member) :
    units (m :: ms) = if kind m = .unit then m :: units ms else units ms := by
  simp only [units, List.filter_cons, decide_eq_true_eq]

theorem unknowns_cons (m : Member) (ms : List Member) :
    unknowns (m :: ms) = if kind m = .unknown then m :: unknowns ms else unknowns ms := by
  simp only [unknowns, List.filter_cons, decide_eq_true_eq]

/-- reading the `value` members `l` without error takes the value slot from `v` to `v'` -/
def ValTrack : Option Nat → List Member → Option Nat → Prop
  | v, [], v' => v' = v
  | v, m :: l, v' => v = none ∧ ∃ lit n, m.2 = .num lit ∧ parseUintLit lit = .ok n ∧ ValTrack (some n) l v'

def UnitTrack : Option Bytes → List Member → Option Bytes → Prop
  | u, [], u' => u' = u
  | u, m :: l, u' => u = none ∧ ∃ s, m.2 = .str s ∧ UnitTrack (some s) l u'

theorem ValTrack_none_some {l : List Member} {n : Nat} :
    ValTrack none l (some n) ↔ ∃ k lit, l = [(k, .num lit)] ∧ parseUintLit lit = .ok n := by
  rcases l with _ | ⟨⟨k, x⟩, _ | _⟩ <;> simp [ValTrack, and_assoc]

theorem UnitTrack_none_some {l : List Member} {s : Bytes} :
    UnitTrack none l (some s) ↔ ∃ k, l = [(k, .str s)] := by
  rcases l with _ | ⟨⟨k, x⟩, _ | _⟩ <;> simp [UnitTrack, eq_comm]

theorem runSteps_ok_iff {du : Bool} {v v' : Option Nat} {u u' : Option Bytes} {ms : List Member} :
    runSteps du v u ms = .ok (v', u') ↔
      (du = true → unknowns ms = []) ∧ ValTrack v (vals ms) v' ∧ UnitTrack u (units ms) u' := by
  induction ms generalizing v u with
  | nil => simp [runSteps, vals, units, unknowns, ValTrack, UnitTrack, eq_comm]
  | cons m ms ih =>
    rw [vals_cons, units_cons, unknowns_cons]
    cases hk : kind m with
    | value =>
      simp only [runSteps_cons_value hk, ih, ValTrack, reduceCtorEq, if_true, if_false]
      constructor
      · rintro ⟨hv, lit, n, hm, hn, h1, h2, h3⟩
        exact ⟨h1, ⟨hv, lit, n, hm, hn, h2⟩, h3⟩
      · rintro ⟨h1, ⟨hv, lit, n, hm, hn, h2⟩, h3⟩
        exact ⟨hv, lit, n, hm, hn, h1, h2, h3⟩
    | unit =>
      simp only [runSteps_cons_unit hk, ih, UnitTrack, reduceCtorEq, if_true, if_false]
      constructor
      · rintro ⟨hu, s, hm, h1, h2, h3⟩
        exact ⟨h1, h2, hu, s, hm, h3⟩
      · rintro ⟨h1, h2, hu, s, hm, h3⟩
        exact ⟨hu, s, hm, h1, h2, h3⟩
    | unknown =>
      simp only [runSteps_cons_unknown hk, ih, reduceCtorEq, if_true, if_false]
      cases du <;> simp

theorem finish_ok_iff {v : Option Nat} {u : Option Bytes} {z : Nat} :
    finish v u = .ok z ↔ ∃ n s, v = some n ∧ u = some s ∧ newSize n s = .ok z := by
  unfold finish
  split <;> simp

theorem runSteps_none_ok_iff {du : Bool} {ms : List Member} {n : Nat} {s : Bytes} :
    runSteps du none none ms = .ok (some n, some s) ↔
      (du = true → unknowns ms = []) ∧ (∃ kv lit, vals ms = [(kv, .num lit)] ∧ parseUintLit lit = .ok n) ∧
      ∃ ku, units ms = [(ku, .str s)] := by
  rw [runSteps_ok_iff, ValTrack_none_some, UnitTrack_none_some]

theorem evalMembers_eq_newSize {mk : Nat} {du : Bool} {ms : List Member} {kv lit ku s : Bytes} {n : Nat}
    (hl : mk = 0 ∨ ms.length ≤ mk) (hunk : du = true → unknowns ms = [])
    (hv : vals ms = [(kv, .num lit)]) (hn : parseUintLit lit = .ok n) (hu : units ms = [(ku, .str s)]) :
    evalMembers mk du ms = newSize n s := by
  rw [evalMembers_eq, if_pos hl, runSteps_none_ok_iff.mpr ⟨hunk, ⟨kv, lit, hv, hn⟩, ku, hu⟩]
  rfl

theorem evalMembers_ok_iff {mk : Nat} {du : Bool} {ms : List Member} {z : Nat} :
    evalMembers mk du ms = .ok z ↔ Denotes mk du ms z := by
  constructor
  · rw [evalMembers_eq]
    split
    · simp only [Outcome.bind_eq_ok, finish_ok_iff, Prod.exists]
      rintro ⟨_, _, hr, n, s, rfl, rfl, hz⟩
      obtain ⟨hunk, ⟨kv, lit, hv, hn⟩, ku, hu⟩ := runSteps_none_ok_iff.mp hr
      exact ⟨‹_›, hunk, kv, lit, n, ku, s, hv, hn, hu, hz⟩
    · simp [Outcome.bind_eq_ok]
  · rintro ⟨hl, hunk, kv, lit, n, ku, s, hv, hn, hu, hz⟩
    rw [evalMembers_eq_newSize hl hunk hv hn hu, hz]

theorem evalMembers_err_iff_not_denotes {mk : Nat} {du : Bool} {ms : List Member} :
    (∃ e, evalMembers mk du ms = .err e) ↔ ¬∃ z, Denotes mk du ms z := by
  simp only [← evalMembers_ok_iff]
  cases h : evalMembers mk du ms with
  | ok z => simp
  | err e => simp
  | panic =>
    rw [evalMembers_eq] at h
    split at h <;> simp [Outcome.bind_eq_panic, runSteps_ne, finish_ne] at h

theorem Denotes.perm {mk : Nat} {du : Bool} {ms ms' : List Member} {z : Nat} (hp : ms.Perm ms')
    (h : Denotes mk du ms z) : Denotes mk du ms' z := by
  obtain ⟨h1, h2, kv, lit, n, ku, s, hv, hn, hu, hz⟩ := h
  refine ⟨hp.length_eq ▸ h1, fun hdu => ?_, kv, lit, n, ku, s, ?_, hn, ?_, hz⟩
  · exact (h2 hdu ▸ hp.symm.filter _ : (unknowns ms').Perm []).eq_nil
  · exact List.perm_singleton.mp (hv ▸ hp.symm.filter _ : (vals ms').Perm [_])
  · exact List.perm_singleton.mp (hu ▸ hp.symm.filter _ : (units ms').Perm [_])

theorem Denotes.unique {mk : Nat} {du : Bool} {ms : List Member} {z z' : Nat}
    (h : Denotes mk du ms z) (h' : Denotes mk du ms z') : z = z' :=
  Outcome.ok.inj ((evalMembers_ok_iff.mpr h).symm.trans (evalMembers_ok_iff.mpr h'))

theorem runSteps_insert_unknown {m : Member} (hk : kind m = .unknown) (v : Option Nat) (u : Option Bytes)
    (l1 l2 : List Member) :
    runSteps false v u (l1 ++ m :: l2) = runSteps false v u (l1 ++ l2) := by
  induction l1 generalizing v u with
  | nil => simp [runSteps, step, hk]
  | cons a l ih => simp only [List.cons_append, runSteps_cons, ih]

theorem evalMembers_insert_unknown {mk : Nat} {m : Member} {l1 l2 : List Member}
    (hk : kind m = .unknown) (hl : mk = 0 ∨ (l1 ++ l2).length + 1 ≤ mk) :
    evalMembers mk false (l1 ++ m :: l2) = evalMembers mk false (l1 ++ l2) := by
  have e : (l1 ++ m :: l2).length = (l1 ++ l2).length + 1 := by
    simp only [List.length_append, List.length_cons, Nat.add_assoc]
  rw [evalMembers_eq, evalMembers_eq, e, if_pos hl, if_pos (by omega), runSteps_insert_unknown hk]

theorem Defect.not_denotes {mk : Nat} {du : Bool} {ms : List Member} {z : Nat}
    (hd : Defect mk du ms) : ¬Denotes mk du ms z := by
  rintro ⟨h1, h2, kv, lit, n, ku, s, hv, hn, hu, hz⟩
  cases hd with
  | tooManyMembers h0 h => omega
  | duplicateValue h => simp [hv] at h
  | duplicateUnit h => simp [hu] at h
  | missingValue h => simp [hv] at h
  | missingUnit h => simp [hu] at h
  | valueNotNumber m hm h =>
    rw [hv, List.mem_singleton] at hm
    subst hm
    exact h lit rfl
  | valueNotUint k lit' e hm h =>
    -- the one `value` member is `lit`, which does parse
    rw [hv, List.mem_singleton] at hm
    simp only [Prod.mk.injEq, MVal.num.injEq] at hm
    rw [hm.2, hn] at h
    cases h
  | unitNotString m hm h =>
    rw [hu, List.mem_singleton] at hm
    subst hm
    exact h s rfl
  | unknownKey h m hm => simp [h2 h] at hm
  | arithmetic kv' lit' n' ku' s' e hv' hn' hu' h =>
    -- same literal, hence same number; same unit; but `newSize` is both `.ok z` and `.err e`
    rw [hv, List.mem_singleton] at hv'
    rw [hu, List.mem_singleton] at hu'
    simp only [Prod.mk.injEq, MVal.num.injEq, MVal.str.injEq] at hv' hu'
    rw [hv'.2, hn] at hn'
    rw [← Outcome.ok.inj hn', hu'.2, hz] at h
    cases h

theorem denotes_of_no_defect {mk : Nat} {du : Bool} {ms : List Member}
    (hd : ¬Defect mk du ms) : ∃ z, Denotes mk du ms z := by
  have h1 : mk = 0 ∨ ms.length ≤ mk :=
    Decidable.byContradiction fun h => hd (.tooManyMembers (by omega) (by omega))
  have h2 : du = true → unknowns ms = [] := fun hdu =>
    List.eq_nil_iff_forall_not_mem.mpr fun m hm => hd (.unknownKey hdu m hm)
  obtain ⟨kv, lit, n, hv, hn⟩ : ∃ kv lit n, vals ms = [(kv, .num lit)] ∧ parseUintLit lit = .ok n := by
    match hv : vals ms with
    | [] => exact (hd (.missingValue hv)).elim
    | _ :: _ :: _ => exact (hd (.duplicateValue (by simp [hv]))).elim
    | [(kv, .str s)] => exact (hd (.valueNotNumber (kv, .str s) (by simp [hv]) nofun)).elim
    | [(kv, .other)] => exact (hd (.valueNotNumber (kv, .other) (by simp [hv]) nofun)).elim
    | [(kv, .num lit)] =>
      cases hn : parseUintLit lit with
      | ok n => exact ⟨kv, lit, n, rfl, hn⟩
      | err e => exact (hd (.valueNotUint kv lit e (by simp [hv]) hn)).elim
      | panic => exact ((parseUintLit_ends _).ne_panic hn).elim
  obtain ⟨ku, s, hu⟩ : ∃ ku s, units ms = [(ku, .str s)] := by
    match hu : units ms with
    | [] => exact (hd (.missingUnit hu)).elim
    | _ :: _ :: _ => exact (hd (.duplicateUnit (by simp [hu]))).elim
    | [(ku, .num lit)] => exact (hd (.unitNotString (ku, .num lit) (by simp [hu]) nofun)).elim
    | [(ku, .other)] => exact (hd (.unitNotString (ku, .other) (by simp [hu]) nofun)).elim
    | [(ku, .str s)] => exact ⟨ku, s, rfl⟩
  cases hz : newSize n s with
  | ok z => exact ⟨z, h1, h2, kv, lit, n, ku, s, hv, hn, hu, hz⟩
  | err e => exact (hd (.arithmetic kv lit n ku s e (by simp [hv]) hn (by simp [hu]) hz)).elim
  | panic => exact ((newSize_ends _ _).ne_panic hz).elim

end U.Props.C12
