/-!
# Tactics for the code ties (`Lemmas/CodeTies*.lean`)

`tools/extract/translate.go` translates straight-line Go decision functions (`if … return` chains, `switch` on a tag)
statement by statement into `Gen.*` definitions on every run. A tie shows that the hand-written model function, the one
the property theorems are about, computes the same results: by comparing meanings, not texts, so that a harmless
rewrite of the source keeps it true.
-/
namespace U.CodeTies

/-- decide an equality between two if-chains over linear integer conditions -/
macro "ifchain" : tactic =>
  `(tactic| (simp only [decide_eq_true_eq, Bool.and_eq_true, Bool.or_eq_true, beq_iff_eq, bne_iff_ne, ne_eq]
             try (repeat' split)
             all_goals first | rfl | omega | (simp_all; done) | (simp_all; omega)))

/-- Boolean combinations of (in)equalities: compare them as propositions -/
macro "boolprop" : tactic =>
  `(tactic| (rw [Bool.eq_iff_iff]
             simp only [Bool.and_eq_true, Bool.or_eq_true, Bool.not_eq_true', beq_iff_eq, bne_iff_ne, ne_eq,
               decide_eq_true_eq, beq_eq_false_iff_ne]
             omega))

end U.CodeTies
