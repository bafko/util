import UtilModel.Model.Roman
/-! # package `roman`: the model agrees with `parseGroup` as translated from the source on this run -/
namespace U.CodeTies

theorem parseGroup_tie (input : Bytes) (unit d5 d10 : Nat) :
    Roman.parseGroup input unit d5 d10 = .ok (Gen.roman_parseGroup input unit d5 d10) := by
  have e32 : (97 - 65 : Nat) = 32 := rfl
  unfold Roman.parseGroup Gen.roman_parseGroup Roman.eqCI
  match input with
  | [] => rfl
  | [a] =>
    simp only [List.length_cons, List.length_nil, List.getElem?_cons_zero, List.getD_eq_getElem?_getD, Option.getD_some, e32]
    by_cases h : (a == d5 || a == d5 + 32) = true <;> simp [h]
  | a :: b :: t =>
    have hl : ¬ (t.length + 1 + 1 = 0) := by omega
    have hl1 : ¬ (t.length + 1 + 1 = 1) := by omega
    simp only [List.length_cons, List.getElem?_cons_zero, List.getElem?_cons_succ, List.getD_eq_getElem?_getD, Option.getD_some,
      e32, hl, hl1, if_false, beq_iff_eq]
    repeat' split
    all_goals first | rfl | simp_all

end U.CodeTies
