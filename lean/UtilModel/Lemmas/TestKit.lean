import UtilModel.Spec.TestOracle
/-! # The test kit: a helper reports a case exactly when the oracle is not satisfied, outside the K1 shape

`judge` and `sat` are the common bodies of the helpers' per-case verdict (`Model/TestKit.lean`) and of the oracle
(`Spec/TestOracle.lean`): `judge_sat` relates them once, and the two directions, and `run` on a list of cases, are
instances. -/
namespace U.TestKit

theorem applyPred_spec (p : Pred) (e : ErrV) (hp : p ≠ .none) (hk : p = .re true false → e.isNil = true) :
    applyPred p e = (!e.isNil && predHolds p e, !(!e.isNil && predHolds p e)) := by
  cases p with
  | none => exact absurd rfl hp
  | any => cases e <;> rfl
  | eq t => cases e <;> simp [applyPred, predHolds, ErrV.isNil, bne]
  | pre t => cases e <;> simp [applyPred, predHolds, ErrV.isNil]
  | suf t => cases e <;> simp [applyPred, predHolds, ErrV.isNil]
  | re c m =>
    cases c <;> cases m <;> cases e <;> simp [applyPred, predHolds, ErrV.isNil] at hk ⊢

/-- in the K1 shape the predicate function says "not met" **without reporting** -/
theorem applyPred_k1 (e : ErrV) (he : e.isNil = false) : applyPred (.re true false) e = (false, false) := by
  cases e <;> simp [applyPred, ErrV.isNil] at he ⊢

/-- What both directions report: `pass` = the hooks passed, `err` = what the call returned, `eqRep` = what the
    comparison with the expected result reports, `emptyRep` = what the emptiness check of the result reports. -/
def judge (pass : Bool) (p : Pred) (err : ErrV) (eqRep emptyRep : Bool) : Bool :=
  !pass || match p with
    | .none => if !err.isNil then true else eqRep
    | p => let (res, rep) := applyPred p err; if res then rep || emptyRep else rep

/-- What the oracle asks in both directions: `satisfiedM` and `satisfiedU` (`Spec/TestOracle.lean`) unfold to `sat`, with their own
    comparison and emptiness check. -/
def sat (pass : Bool) (p : Pred) (err : ErrV) (eqOk emptyOk : Bool) : Bool :=
  pass && match p with
    | .none => err.isNil && eqOk
    | p => !err.isNil && predHolds p err && emptyOk

theorem judge_sat {c : Case} {pass : Bool} {err : ErrV} {eqRep emptyRep eqOk emptyOk : Bool}
    (hk : (pass && k1Shape c err) = false) (h1 : eqRep = !eqOk) (h2 : emptyRep = !emptyOk) :
    judge pass c.pred err eqRep emptyRep = !sat pass c.pred err eqOk emptyOk := by
  subst h1 h2
  cases pass
  · rfl
  unfold k1Shape at hk
  generalize c.pred = p at hk
  by_cases hp : p = .none
  · subst hp; cases err <;> cases eqOk <;> rfl
  · simp only [judge, sat]
    rw [applyPred_spec p err hp (by intro h; subst h; simpa using hk)]
    generalize (!err.isNil && predHolds p err) = a
    cases a <;> cases emptyOk <;> rfl

theorem marshalCase_eq (binary : Bool) (c : Case) :
    marshalCase binary c = judge (hooksPass c) c.pred (marshalResult c.mbeh).2
      (!dataEqual binary c.data (marshalResult c.mbeh).1) (marshalResult c.mbeh).1.isSome := by
  unfold marshalCase hooksPass judge
  cases hookFails c.before <;> cases hookFails c.after <;> cases c.pred <;> rfl

theorem received_eq (hb : Option HelperBeh) (c : Case) :
    received hb c = (unmarshalStored c.ubeh).getD (helperNew hb c.value) := by
  unfold received freshValue helperNew
  cases unmarshalStored c.ubeh <;> cases hb <;> rfl

theorem unmarshalCase_eq (hb : Option HelperBeh) (c : Case) :
    unmarshalCase hb c = judge (hooksPass c) c.pred (unmarshalErr c.ubeh)
      (helperAssertEqual hb c.value (received hb c)) (helperAssertEmpty hb (received hb c)) := by
  unfold unmarshalCase hooksPass judge unmarshalResult
  rw [← received_eq]
  cases hookFails c.before <;> cases hookFails c.after <;> cases c.pred <;> rfl

theorem marshalCase_spec (binary : Bool) (c : Case) (hk : (hooksPass c && k1Shape c (marshalResult c.mbeh).2) = false) :
    marshalCase binary c = !satisfiedM binary c :=
  (marshalCase_eq binary c).trans (judge_sat hk rfl (Option.not_isNone _).symm)

theorem unmarshalCase_spec (hb : Option HelperBeh) (c : Case) (hk : (hooksPass c && k1Shape c (unmarshalErr c.ubeh)) = false) :
    unmarshalCase hb c = !satisfiedU hb c :=
  (unmarshalCase_eq hb c).trans (judge_sat (eqOk := valueAccepted hb c.value (received hb c))
    (emptyOk := emptyAccepted hb (received hb c)) hk (by cases hb <;> simp [helperAssertEqual, valueAccepted, bne])
    (by cases hb <;> simp [helperAssertEmpty, emptyAccepted, bne]))

theorem exists_mem_map {α β} {f : α → β} {xs : List α} {P : β → Prop} :
    (∃ c ∈ xs.map f, P c) ↔ ∃ x ∈ xs, P (f x) := by
  constructor
  · rintro ⟨_, hc, h⟩
    obtain ⟨x, hx, rfl⟩ := List.mem_map.mp hc
    exact ⟨x, hx, h⟩
  · rintro ⟨x, hx, h⟩
    exact ⟨f x, List.mem_map_of_mem hx, h⟩

/-- the helper's verdict on one case of a type that has the interface: only applicable cases can be reported -/
def verdict (h : Helper) (hb : Option HelperBeh) (c : Case) : Bool :=
  applicable h c && (if h.isMarshal then marshalCase h.isBinary c else unmarshalCase hb c)

theorem run_eq (h : Helper) (tk : TypeKind) (hb : Option HelperBeh) (cases : List Case) :
    run h tk hb cases =
      if implements h tk then (false, cases.map (verdict h hb)) else (!cases.isEmpty, cases.map fun _ => false) := by
  cases cases with
  | nil => cases implements h tk <;> rfl
  | cons c cs =>
    unfold run
    cases implements h tk
    · rfl
    · refine congrArg (Prod.mk false) (List.map_congr_left fun c _ => ?_)
      unfold verdict applicable
      cases h.isMarshal <;> simp

/-! ## hooks that edit the case: the operational reading (`XCase.eff`) is the declarative one (`XCase.completed`) -/

theorem lastWrite_eq {α : Type} (hasB hasA : Bool) (b a : Option α) (lit : α) :
    lastWrite hasB hasA b a lit = (if hasA then a else none).getD ((if hasB then b else none).getD lit) := by
  unfold lastWrite
  cases (if hasA then a else none) <;> cases (if hasB then b else none) <;> rfl

theorem eff_eq_completed : XCase.eff = XCase.completed := by
  funext ⟨c, eb, ea⟩
  simp only [XCase.eff, XCase.completed, lastWrite_eq, Edit.apply, bne]
  cases (c.before == Hook.nil) <;> cases (c.after == Hook.nil) <;> rfl

theorem completed_constraint (x : XCase) : x.completed.constraint = x.base.constraint := rfl

theorem applicable_completed (h : Helper) (x : XCase) : applicable h x.completed = applicable h x.base := rfl
end U.TestKit
