import UtilModel.Model.Date
import UtilModel.Lemmas.Calendar
import UtilModel.Lemmas.Outcome
/-! # The stored form of a date

A `Date` holds year, month and day minus one in fixed-width fields; `store y m d` is the value that holds the visible
date `(y, m, d)`. `New`, `FromTime` and `UnmarshalBinary` all produce it, and on `Proper` values (those that read back
as a valid date) comparing the stored fields is comparing day numbers. -/
namespace U.Date
open U.GoTime

theorem wrap32_id {x : Int} (h : -2147483648 ≤ x ∧ x < 2147483648) : wrap32 x = x := by
  unfold wrap32; omega

theorem wrap32_range (x : Int) : -2147483648 ≤ wrap32 x ∧ wrap32 x < 2147483648 := by
  unfold wrap32; omega

/-- `time.Date` does not normalise anything for a month in 1..12 -/
theorem ordinalNorm_valid (y : Int) (m : Nat) (d : Int) (h1 : 1 ≤ m) (h12 : m ≤ 12) :
    ordinalNorm y m d = ordinal y m d := by
  unfold ordinalNorm
  have e1 : ((m : Int) - 1) / 12 = 0 := by omega
  have e2 : ((((m : Int) - 1) % 12).toNat + 1) = m := by omega
  simp only [e1, e2, Int.add_zero]

/-- the stored form of the visible date `(y, m, d)`: what `FromTime` and `UnmarshalBinary` assign to the receiver -/
def store (y : Int) (m d : Nat) : Date := ⟨wrap32 (y - 1), (m + 255) % 256, (d + 255) % 256⟩

theorem ofCivil_eq_store (c : Int × Nat × Int) (hd : 0 ≤ c.2.2) : ofCivil c = store c.1 c.2.1 c.2.2.toNat :=
  congrArg (Date.mk _ _) (by omega)

/-- a stored date is *proper* when it reads back as a valid calendar date from fields in the range `store` writes
(the year plus one within `int32`, month below 12, day below 31): on these reading back is injective (`store_date`) -/
def Proper (d : Date) : Prop :=
  ValidDate d.date.1 d.date.2.1 d.date.2.2 ∧ -2147483648 ≤ d.year ∧ d.year < 2147483647 ∧ d.month < 12 ∧ d.day < 31

theorem date_store {y : Int} {m d : Nat} (hv : ValidDate y m d) (hy : -2147483648 ≤ y ∧ y < 2147483648) :
    (store y m d).date = (y, m, d) := by
  have hb := hv.bounds
  unfold store Date.date wrap32
  simp only [Prod.mk.injEq]
  omega

/-- the lower bound on `y` is one above `int32`'s: the stored year is `y - 1` -/
theorem proper_store {y : Int} {m d : Nat} (hv : ValidDate y m d) (hy : -2147483647 ≤ y ∧ y < 2147483648) :
    Proper (store y m d) := by
  have hb := hv.bounds
  unfold Proper
  rw [date_store hv ⟨by omega, hy.2⟩]
  refine ⟨hv, ?_⟩
  unfold store wrap32
  simp only
  omega

theorem date_proper {d : Date} (h : Proper d) : d.date = (d.year + 1, d.month + 1, d.day + 1) := by
  obtain ⟨_, h1, h2, h3, h4⟩ := h
  unfold Date.date
  rw [wrap32_id (by omega), Nat.mod_eq_of_lt (by omega), Nat.mod_eq_of_lt (by omega)]

theorem store_date {d : Date} (h : Proper d) : store d.date.1 d.date.2.1 d.date.2.2 = d := by
  rw [date_proper h]
  obtain ⟨_, h1, h2, h3, h4⟩ := h
  obtain ⟨y, m, dd⟩ := d
  unfold store wrap32
  simp only [Date.mk.injEq] at *
  omega

theorem ordinal_proper {d : Date} (h : Proper d) :
    d.ordinal = ordinal d.date.1 d.date.2.1 d.date.2.2 := by
  unfold Date.ordinal
  exact ordinalNorm_valid _ _ _ h.1.1 h.1.2.1

theorem valid_toNat {y : Int} {m : Nat} {d : Int} (hv : ValidDate y m d) : ValidDate y m (d.toNat : Nat) := by
  rw [Int.toNat_of_nonneg (by have := hv.bounds; omega)]; exact hv

theorem new_valid {y : Int} {m : Nat} {d : Int} (hv : ValidDate y m d) : new y m d = store y m d.toNat := by
  unfold new
  rw [ordinalNorm_valid y m d hv.1 hv.2.1, civil_ordinal hv, ofCivil_eq_store _ (Int.le_trans (by decide) hv.2.2.1)]

theorem date_new_valid {y : Int} {m : Nat} {d : Int} (hv : ValidDate y m d)
    (hy : -2147483648 ≤ y ∧ y < 2147483648) : (new y m d).date = (y, m, d.toNat) := by
  rw [new_valid hv, date_store (valid_toNat hv) hy]

theorem proper_new {y : Int} {m : Nat} {d : Int} (hv : ValidDate y m d)
    (hy : -2147483647 ≤ y ∧ y < 2147483648) : Proper (new y m d) := by
  rw [new_valid hv]; exact proper_store (valid_toNat hv) hy

/-- what `FromTime` stores for the day with number `n`, provided its year fits `int32` -/
theorem ofCivil_civil (n : Int) (hy : -2147483647 ≤ (civil n).1 ∧ (civil n).1 < 2147483648) :
    Proper (ofCivil (civil n)) ∧ (ofCivil (civil n)).ordinal = n := by
  obtain ⟨hv, ho⟩ := ordinal_civil n
  have hd0 : 0 ≤ (civil n).2.2 := by have := hv.bounds; omega
  have hp := proper_store (valid_toNat hv) hy
  rw [ofCivil_eq_store _ hd0]
  refine ⟨hp, ?_⟩
  rw [ordinal_proper hp, date_store (valid_toNat hv) ⟨by omega, hy.2⟩]
  simp only
  rw [Int.toNat_of_nonneg hd0]
  exact ho

theorem ofCivil_civil_ordinal {d : Date} (h : Proper d) : ofCivil (civil d.ordinal) = d := by
  rw [ordinal_proper h, civil_ordinal h.1, ofCivil_eq_store _ (Int.natCast_nonneg _)]
  exact store_date h

theorem fromTime_midnight {d : Date} (h : Proper d) : fromTime ((d.ordinal - 1) * 86400) 0 0 = d := by
  have hof := ofCivil_civil_ordinal h
  unfold fromTime
  split
  · -- the zero instant gives the zero `Date`, and that is what day number 1 (0001-01-01) is stored as
    rename_i h0
    have ho : d.ordinal = 1 := by omega
    rw [ho] at hof
    rw [← hof]
    decide
  · have e : ((d.ordinal - 1) * 86400 + 0) / 86400 + 1 = d.ordinal := by omega
    rw [e, hof]

/-- lexicographic "earlier than" on (year, month, day) triples -/
def lexLt (a : Int) (b c : Nat) (x : Int) (y z : Nat) : Prop := a < x ∨ (a = x ∧ (b < y ∨ (b = y ∧ c < z)))

/-- a Boolean `if` as a proposition; with it an if-chain over comparisons becomes a formula `omega` decides -/
theorem ite_eq_true_iff (c : Prop) [Decidable c] (a b : Bool) :
    (if c then a else b) = true ↔ (c ∧ a = true) ∨ (¬c ∧ b = true) := by
  split <;> simp [*]

theorem before_iff_lex (d e : Date) : d.before e = true ↔ lexLt d.year d.month d.day e.year e.month e.day := by
  simp only [Date.before, lexLt, ite_eq_true_iff, Bool.false_eq_true, and_false, and_true, false_or, or_false]
  omega

theorem after_eq_before (d e : Date) : d.after e = e.before d := rfl

theorem equal_iff_fields (d e : Date) :
    d.equal e = true ↔ d.year = e.year ∧ d.month = e.month ∧ d.day = e.day := by
  simp only [Date.equal, Bool.and_eq_true, beq_iff_eq, and_assoc]

theorem equal_iff_eq (d e : Date) : d.equal e = true ↔ d = e := by
  rw [equal_iff_fields]
  obtain ⟨y, m, dd⟩ := d
  obtain ⟨y', m', dd'⟩ := e
  simp only [Date.mk.injEq]

theorem before_iff {d e : Date} (hd : Proper d) (he : Proper e) :
    d.before e = true ↔ d.ordinal < e.ordinal := by
  rw [before_iff_lex, ordinal_proper hd, ordinal_proper he, ordinal_lt_iff hd.1 he.1, date_proper hd, date_proper he]
  simp only [lexLt]
  omega

theorem after_iff {d e : Date} (hd : Proper d) (he : Proper e) :
    d.after e = true ↔ e.ordinal < d.ordinal := by
  rw [after_eq_before, before_iff he hd]

theorem equal_iff {d e : Date} (hd : Proper d) (he : Proper e) :
    d.equal e = true ↔ d.ordinal = e.ordinal := by
  rw [equal_iff_eq]
  refine ⟨fun h => by rw [h], fun h => ?_⟩
  rw [← ofCivil_civil_ordinal hd, h, ofCivil_civil_ordinal he]

theorem after_ne_equal {f t : Date} (h : f.after t = true) : f.equal t = false := by
  rw [after_eq_before, before_iff_lex] at h
  rw [← Bool.not_eq_true, equal_iff_fields]
  unfold lexLt at h
  omega

theorem filterFromTo_err_iff (fr to : Option Date) (e : Err) :
    filterFromTo fr to = .err e ↔ e = .invalidFromOrTo ∧ ∃ f t, fr = some f ∧ to = some t ∧ f.after t = true := by
  match fr, to with
  | none, none => simp [filterFromTo]
  | none, some _ => simp [filterFromTo]
  | some _, none => simp [filterFromTo]
  | some f, some t =>
    simp only [filterFromTo, Option.some.injEq, exists_and_left, exists_eq_left']
    cases ha : f.after t
    · split <;> simp
    · simp [after_ne_equal ha, eq_comm]

theorem validDate_iff_valid (y : Int) (m d : Nat) : validDate y m d = true ↔ ValidDate y m d := by
  simp only [validDate, Bool.and_eq_true, decide_eq_true_eq, ValidDate]
  omega

theorem byteOf_lt (x : Int) : byteOf x < 256 := by unfold byteOf; omega

theorem byteOf_cast (x : Int) : ((byteOf x : Nat) : Int) = x % 256 := by unfold byteOf; omega

/-- the four bytes `MarshalBinary` writes for an `int32` decode to it -/
theorem wrap32_bytes {y : Int} (hy : -2147483648 ≤ y ∧ y < 2147483648) :
    wrap32 ((byteOf (y / 16777216) * 16777216 + byteOf (y / 65536) * 65536 + byteOf (y / 256) * 256 + byteOf y : Nat) : Int) = y := by
  -- without the casts: `omega` splits on every `toNat`
  simp only [Int.natCast_add, Int.natCast_mul, byteOf_cast]
  unfold wrap32; omega

theorem marshalBinary_eq (d : Date) :
    marshalBinary d = [1, byteOf (d.date.1 / 16777216), byteOf (d.date.1 / 65536), byteOf (d.date.1 / 256), byteOf d.date.1,
      d.date.2.1, d.date.2.2] := rfl

theorem six_of_length {l : Bytes} (h : l.length = 6) : ∃ a b c d e f, l = [a, b, c, d, e, f] := by
  match l, h with
  | [a, b, c, d, e, f], _ => exact ⟨_, _, _, _, _, _, rfl⟩

theorem unmarshalBinary_seven (v b1 b2 b3 b4 m dd : Nat) :
    unmarshalBinary [v, b1, b2, b3, b4, m, dd] =
      if v ≠ 1 then .err .unsupportedVersion
      else if validDate (wrap32 (b1 * 16777216 + b2 * 65536 + b3 * 256 + b4 : Nat)) m dd
        then .ok (store (wrap32 (b1 * 16777216 + b2 * 65536 + b3 * 256 + b4 : Nat)) m dd)
        else .err .invalidDate := rfl

theorem unmarshalBinary_length (v : Nat) (rest : Bytes) (h : rest.length ≠ 6) :
    unmarshalBinary (v :: rest) = if v ≠ 1 then .err .unsupportedVersion else .err .invalidLength := by
  match rest, h with
  | [], _ => rfl
  | [_], _ => rfl
  | [_, _], _ => rfl
  | [_, _, _], _ => rfl
  | [_, _, _, _], _ => rfl
  | [_, _, _, _, _], _ => rfl
  | [_, _, _, _, _, _], h => exact absurd rfl h
  | _ :: _ :: _ :: _ :: _ :: _ :: _ :: _, _ => rfl

/-- `UnmarshalBinary` as the source writes it: length, version byte, length again, then the fields by index -/
theorem unmarshalBinary_eq (bs : Bytes) :
    unmarshalBinary bs =
      if bs.length = 0 then .err .invalidLength
      else if bs.getD 0 0 ≠ 1 then .err .unsupportedVersion
      else if bs.length ≠ 7 then .err .invalidLength
      else if validDate (wrap32 (bs.getD 1 0 * 16777216 + bs.getD 2 0 * 65536 + bs.getD 3 0 * 256 + bs.getD 4 0 : Nat))
          (bs.getD 5 0) (bs.getD 6 0)
        then .ok (store (wrap32 (bs.getD 1 0 * 16777216 + bs.getD 2 0 * 65536 + bs.getD 3 0 * 256 + bs.getD 4 0 : Nat))
          (bs.getD 5 0) (bs.getD 6 0))
        else .err .invalidDate := by
  match bs with
  | [] => rfl
  | v :: rest =>
    by_cases hl : rest.length = 6
    · obtain ⟨b1, b2, b3, b4, m, d, rfl⟩ := six_of_length hl
      rfl
    · rw [unmarshalBinary_length v rest hl]
      simp only [List.getD_cons_zero, List.length_cons]
      rw [if_neg (Nat.succ_ne_zero _), if_pos (show rest.length + 1 ≠ 7 by omega)]

theorem unmarshalBinary_marshalBinary {d : Date} (h : Proper d) : unmarshalBinary (marshalBinary d) = .ok d := by
  rw [marshalBinary_eq, unmarshalBinary_seven, wrap32_bytes (y := d.date.1) (wrap32_range _), if_neg (by decide),
    if_pos ((validDate_iff_valid _ _ _).mpr h.1), store_date h]

theorem unmarshalBinary_ok {bs : Bytes} {d : Date} (h : unmarshalBinary bs = .ok d) :
    ∃ b1 b2 b3 b4 m dd, bs = [1, b1, b2, b3, b4, m, dd] ∧
      ValidDate (wrap32 (b1 * 16777216 + b2 * 65536 + b3 * 256 + b4 : Nat)) m dd ∧
      d = store (wrap32 (b1 * 16777216 + b2 * 65536 + b3 * 256 + b4 : Nat)) m dd := by
  rw [unmarshalBinary_eq] at h
  simp only [Outcome.ite_err_eq_ok, Outcome.ite_ok_eq_ok, Decidable.not_not] at h
  obtain ⟨_, hv, hl, hvd, rfl⟩ := h
  cases bs with
  | nil => exact absurd hl (by decide)
  | cons v rest =>
    obtain ⟨b1, b2, b3, b4, m, dd, rfl⟩ := six_of_length (Nat.succ.inj hl)
    obtain rfl : v = 1 := hv
    exact ⟨b1, b2, b3, b4, m, dd, rfl, (validDate_iff_valid _ _ _).mp hvd, rfl⟩

end U.Date
