import UtilModel.Lemmas.DateBasics
import UtilModel.Lemmas.TieTactics
/-! # package `date`: the model agrees with the decision functions translated from the source on this run -/
-- the `simp only` lists are wider than today's translation needs: a tie has to survive equivalent rewrites of the source
set_option linter.unusedSimpArgs false
namespace U.CodeTies
open U.Date

/-- the translated comparisons as propositions about the two (year, month, day) triples, whichever way the source
writes them (if-chain or formula, operands in any order) -/
theorem gen_cmp_iff (a : Int) (b c : Nat) (x : Int) (y z : Nat) :
    (Gen.date_Before a b c x y z = true ↔ lexLt a b c x y z) ∧ (Gen.date_After a b c x y z = true ↔ lexLt x y z a b c) ∧
      (Gen.date_Equal a b c x y z = true ↔ a = x ∧ b = y ∧ c = z) := by
  simp only [Gen.date_Before, Gen.date_After, Gen.date_Equal, lexLt, ite_eq_true_iff, Bool.and_eq_true, Bool.or_eq_true,
    Bool.not_eq_true', beq_iff_eq, bne_iff_ne, ne_eq, decide_eq_true_eq, decide_eq_false_iff_not, Bool.false_eq_true,
    and_false, and_true, true_and, false_or, or_false] <;>
    omega

/-- Boolean formulas over the date comparisons (either side: model methods or their translations): compare them
as propositions about the (year, month, day) triples -/
macro "dateprop" : tactic =>
  `(tactic| (rw [Bool.eq_iff_iff]
             simp only [Bool.and_eq_true, Bool.or_eq_true, Bool.not_eq_true', ← Bool.not_eq_true, eq_self,
               gen_cmp_iff, before_iff_lex, after_eq_before, equal_iff_fields, lexLt]
             try omega))

theorem after_tie (d e : Date.Date) : d.after e = Gen.date_After d.year d.month d.day e.year e.month e.day := by
  dateprop

theorem before_tie (d e : Date.Date) : d.before e = Gen.date_Before d.year d.month d.day e.year e.month e.day := by
  dateprop

theorem equal_tie (d e : Date.Date) : d.equal e = Gen.date_Equal d.year d.month d.day e.year e.month e.day := by
  dateprop

theorem isZero_tie (d : Date.Date) : d.isZero = Gen.date_IsZero d.year d.month d.day := by
  unfold Date.Date.isZero Gen.date_IsZero
  first | rfl | boolprop

/-- of the year only `400 ∣ y → 100 ∣ y → 4 ∣ y` matters; the rest is the month table, split case by case -/
theorem validDate_tie (y : Int) (m d : Nat) : Date.validDate y m d = Gen.date_validDate y m d := by
  rw [Bool.eq_iff_iff]
  simp only [Date.validDate, Gen.date_validDate, GoTime.daysIn, GoTime.daysInL, GoTime.isLeap, ite_eq_true_iff,
    Bool.or_eq_true, Bool.and_eq_true, decide_eq_true_eq, Bool.not_eq_true', decide_eq_false_iff_not, beq_iff_eq,
    bne_iff_ne, ne_eq, Bool.false_eq_true, and_false, false_or]
  have h1 : y % 400 = 0 → y % 100 = 0 := by omega
  have h2 : y % 100 = 0 → y % 4 = 0 := by omega
  generalize y % 400 = r400 at *
  generalize y % 100 = r100 at *
  generalize y % 4 = r4 at *
  repeat' split
  all_goals omega

/-! ## the filters (`date/filter.go`)

The `Contains` methods are Boolean formulas over `Equal`/`Before`/`After` calls on the filter's fields, compared as
propositions (`dateprop`): `a.Before(b)` vs `b.After(a)`, reordered disjuncts, negated forms and if-chains instead of
`||` all keep the ties true. -/

theorem contains_tie (F : Date.Filter) (x : Date.Date) :
    F.contains x = match F with
      | .no => Gen.date_filterNo_Contains x.year x.month x.day
      | .date d => Gen.date_filterDate_Contains d.year d.month d.day x.year x.month x.day
      | .from f => Gen.date_filterFrom_Contains f.year f.month f.day x.year x.month x.day
      | .to t => Gen.date_filterTo_Contains t.year t.month t.day x.year x.month x.day
      | .fromTo f t => Gen.date_filterFromTo_Contains f.year f.month f.day t.year t.month t.day x.year x.month x.day := by
  cases F
  · rfl
  · unfold Date.Filter.contains Gen.date_filterTo_Contains
    dateprop
  · unfold Date.Filter.contains Gen.date_filterFrom_Contains
    dateprop
  · unfold Date.Filter.contains Gen.date_filterDate_Contains
    dateprop
  · unfold Date.Filter.contains Gen.date_filterFromTo_Contains
    dateprop

/-! ### `FilterFromTo`: which filter is built, or which error -/

def triple (d : Date.Date) : Int × Nat × Nat := (d.year, d.month, d.day)

/-- a model filter as the translation writes it: Go type name and its `Date` fields in declaration order -/
def encFilter : Date.Filter → String × List (Int × Nat × Nat)
  | .no => ("filterNo", [])
  | .to t => ("filterTo", [triple t])
  | .from f => ("filterFrom", [triple f])
  | .date d => ("filterDate", [triple d])
  | .fromTo f t => ("filterFromTo", [triple f, triple t])

/-- the Go sentinel an error class of package `date` stands for -/
def encErr : Err → String
  | .invalidFromOrTo => "ErrInvalidFromOrTo" | .invalidLength => "ErrInvalidLength"
  | .unsupportedVersion => "ErrUnsupportedVersion" | .invalidDate => "ErrInvalidDate" | e => e.name

def encOut {α β} (enc : α → β) : Outcome α → Except String β
  | .ok a => .ok (enc a) | .err e => .error (encErr e) | .panic => .error "panic"

theorem filterFromTo_tie (fr to : Option Date.Date) :
    encOut encFilter (Date.filterFromTo fr to)
      = Gen.date_FilterFromTo fr.isNone (fr.getD Date.zero).year (fr.getD Date.zero).month (fr.getD Date.zero).day
          to.isNone (to.getD Date.zero).year (to.getD Date.zero).month (to.getD Date.zero).day := by
  cases fr <;> cases to <;>
    simp only [Date.filterFromTo, Gen.date_FilterFromTo, ← equal_tie, ← after_tie, ← before_tie, Option.isNone_none,
      Option.isNone_some, Option.getD_some, Option.getD_none, Bool.false_eq_true, if_true, if_false] <;>
    (try (repeat' split)) <;>
    first
      | rfl
      | (exfalso
         simp only [← Bool.not_eq_true, after_eq_before, before_iff_lex, equal_iff_fields, lexLt] at *
         omega)

/-! ## the binary form (`MarshalBinary`, `UnmarshalBinary`)

Translated in the typed mode of the translator (`tools/extract/typed.go`): Go's `int32`/`uint8` arithmetic over `Int`
with explicit wraps (`Gen.wrap_int32`, `Gen.wrap_uint8`), `x >> k` as floor division, `|` of bytes at disjoint
positions as `+`. The model writes the same arithmetic with `wrap32`, `byteOf`, `% 256`; equal results are decided
by `omega` after unfolding both, so other but equal ways of writing the arithmetic keep the ties true. -/

theorem marshalBinary_tie (d : Date.Date) :
    Gen.date_MarshalBinary d.year d.month d.day = .ok ((Date.marshalBinary d).map (fun b : Nat => (b : Int))) := by
  unfold Gen.date_MarshalBinary Date.marshalBinary Date.byteOf Date.wrap32 Gen.wrap_int32 Gen.wrap_uint8
  simp only [List.map_cons, List.map_nil, Except.ok.injEq, List.cons.injEq, and_true, Gen.date_version]
  omega

theorem vd_congr {y1 y2 m d : Int} (h : y1 = y2) : Gen.date_validDate y1 m d = Gen.date_validDate y2 m d := by rw [h]

/-- a stored date as the translation writes the receiver: three integers -/
def itriple (d : Date.Date) : Int × Int × Int := (d.year, d.month, d.day)

theorem unmarshalBinary_tie (dy dm dd : Int) (bs : Bytes) :
    Gen.date_UnmarshalBinary dy dm dd bs = encOut itriple (Date.unmarshalBinary bs) := by
  rw [Date.unmarshalBinary_eq]
  simp only [Gen.date_UnmarshalBinary, validDate_tie]
  -- the decoded year of either side (the first fixed-width expression met) is the same number, so the two `validDate`
  -- calls coincide; that call becomes one Boolean
  generalize hY : Gen.wrap_int32 _ = Yg
  generalize hM : Date.wrap32 _ = Ym
  have hYM : Yg = Ym := by
    subst hY hM
    simp only [Date.wrap32, Gen.wrap_int32, Gen.wrap_uint8]
    omega
  subst hYM
  clear hM hY
  generalize Gen.date_validDate _ _ _ = g
  -- the conditions of the translation written as the model's: otherwise every `split` doubles the goals
  simp only [beq_iff_eq, bne_iff_ne, ne_eq, Bool.not_eq_true', ← Bool.not_eq_true, ite_not]
  norm_cast
  repeat' split
  all_goals first
    | rfl
    | (simp only [encOut, itriple, Date.store, Date.wrap32, Gen.wrap_int32, Gen.wrap_uint8, Except.ok.injEq, Prod.mk.injEq, true_and]
       omega)

end U.CodeTies
