import UtilModel.Model.Sem
import UtilModel.Lemmas.SemOrder
/-! # Specification of SemVer 2.0.0 §11 precedence, and the excluded departure (C06) -/
namespace U.Props.C06
open U U.Sem

/-! ## Specification: SemVer 2.0.0 §11 on byte strings -/

/-- an identifier is numeric when it is a non-empty run of digits -/
def isNum (s : Bytes) : Bool := !s.isEmpty && allDigits s

/-- §11.4.1–11.4.3 on one pair of identifiers: numeric ones by value, numeric below alphanumeric,
alphanumeric ones in ASCII (byte) order -/
def specIdent (a b : Bytes) : Int :=
  if isNum a && isNum b then cmpNat (val a) (val b)
  else if isNum a then -1
  else if isNum b then 1
  else cmpBytes a b

/-- §11.4: identifiers left to right; §11.4.4: a longer list above its own prefix -/
def specIdents : List Bytes → List Bytes → Int
  | [], [] => 0
  | [], _ :: _ => -1
  | _ :: _, [] => 1
  | a :: as, b :: bs => if specIdent a b ≠ 0 then specIdent a b else specIdents as bs

/-- §11.3: a release (empty pre-release) ranks above any pre-release -/
def specPre (a b : Bytes) : Int :=
  if a.isEmpty then (if b.isEmpty then 0 else 1)
  else if b.isEmpty then -1
  else specIdents (splitDot a) (splitDot b)

/-- §11.2: major, minor, patch numerically; then the pre-release rule; build metadata ignored -/
def specCmp (v w : Ver) : Int :=
  if v.major ≠ w.major then cmpNat v.major w.major
  else if v.minor ≠ w.minor then cmpNat v.minor w.minor
  else if v.patch ≠ w.patch then cmpNat v.patch w.patch
  else specPre v.pre w.pre

/-- strip the common prefix of two byte strings -/
def stripCommon : Bytes → Bytes → Bytes × Bytes
  | a :: as, b :: bs => if a = b then stripCommon as bs else (a :: as, b :: bs)
  | as, bs => (as, bs)

/-- the deliberate departure: both identifiers alphanumeric, and after their common prefix both
remainders are non-empty runs of digits (`a01` vs `a1`, `a2` vs `a11`) -/
def excludedIdent (a b : Bytes) : Bool :=
  !isNum a && !isNum b &&
    (let r := stripCommon a b
     !r.1.isEmpty && !r.2.isEmpty && allDigits r.1 && allDigits r.2)

/-- … at the first pair of identifiers that differ (pairs that differ only by leading zeros of a
numeric identifier — impossible in valid versions — are skipped like equal ones) -/
def excludedIdents : List Bytes → List Bytes → Bool
  | a :: as, b :: bs =>
    if a = b then excludedIdents as bs
    else excludedIdent a b || (specIdent a b == 0 && excludedIdents as bs)
  | _, _ => false

def Excluded (a b : Bytes) : Bool := excludedIdents (splitDot a) (splitDot b)

end U.Props.C06
