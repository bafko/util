import UtilModel.Lemmas.SizeRender
/-!
# C12 — Size JSON forms are gated by rules and objects are read faithfully

`Size.parse maxLen maxKeys r s` models `DefaultParser(input, r)` with `MaxInputLength = maxLen`,
`MaxObjectKeys = maxKeys` (after fixes F6–F8); `r.jsonString`/`r.jsonObject`/`r.disallowUnknown` are the
rule bits. `GoJson.Dec` models `json.Decoder` (`Token`, `More`).

* **Totality** (`no_panic`): the type assertion `t.(string)` on the key token cannot fail — at the top
  of every round of the member loop the decoder is where a key or `}` is expected
  (`Lemmas/JsonTokens.lean`, `Lemmas/SizeObject.lean`).
* **Gating** (`text_mode`, `gating`, `accepted_form`), **scalar forms** (`number_form`, `string_form`:
  the text rules with `RuleDisableUnit` ignored), **exactly one value** (`single_value`,
  `trailing_rejected`).
* **Objects, abstractly** (`Spec/SizeJson.lean`: `evalMembers` on a list of members):
  `object_value`, `unknown_deleted`/`unknown_inserted`, `order_independent`, `order_independent_reject`,
  `defects`, `too_many_members`.
* **Objects, concretely**: `object_loop_refinement`/`object_refinement` — on the compact JSON text of any
  member list (values: integer literals, plain strings, `true`/`false`/`null`, arrays and objects of any
  nesting) the parser computes `evalMembers`; hence `parse_order_independent` and `nested_unknown_skipped`
  for real input text.

Not covered here: well-formedness of the *consumed prefix* against an independent JSON grammar (the
tokenizer model, validated against `encoding/json`, is the definition of "well-formed"); renderings
with white space between tokens, escapes in strings, or fraction/exponent number literals in the
refinement theorems (the gating, totality, single-value and abstract theorems hold for all inputs).
-/
namespace U.Props.C12
open U.GoJson U.JsonTokens U.Size U.SizeObject

/-! ## totality -/

/-- the parser never panics, whatever the input and configuration -/
theorem no_panic (maxLen maxKeys : Nat) (r : Rule) (s : Bytes) : Size.parse maxLen maxKeys r s ≠ .panic :=
  (parse_ends maxLen maxKeys r s).ne_panic

/-! ## which form is accepted -/

/-- without a JSON rule the input is read as text -/
theorem text_mode (maxLen maxKeys : Nat) (r : Rule) (s : Bytes)
    (h1 : r.jsonString = false) (h2 : r.jsonObject = false) (hl : maxLen = 0 ∨ s.length ≤ maxLen) :
    Size.parse maxLen maxKeys r s = unmarshalText r.disableUnit s :=
  parse_text_mode _ _ _ _ h1 h2 hl

/-- with a JSON rule the first token decides: malformed ⇒ the decoder's error; `{` needs the object
rule; a string needs the string rule; `[` ⇒ `expectedObject`; `true`/`false`/`null` ⇒ `invalidType` -/
theorem gating (maxLen maxKeys : Nat) (r : Rule) (s : Bytes)
    (hj : r.jsonString = true ∨ r.jsonObject = true) (hl : maxLen = 0 ∨ s.length ≤ maxLen) :
    (∀ e, (Dec.init s).token = .error e → Size.parse maxLen maxKeys r s = .err (jerr e)) ∧
    (∀ d, (Dec.init s).token = .ok (.delim 123, d) → r.jsonObject = false →
      Size.parse maxLen maxKeys r s = .err .objectDisabled) ∧
    (∀ c d, (Dec.init s).token = .ok (.delim c, d) → c ≠ 123 →
      Size.parse maxLen maxKeys r s = .err .expectedObject) ∧
    (∀ t d, (Dec.init s).token = .ok (.str t, d) → r.jsonString = false →
      Size.parse maxLen maxKeys r s = .err .stringDisabled) ∧
    (∀ b d, (Dec.init s).token = .ok (.bool b, d) → Size.parse maxLen maxKeys r s = .err .invalidType) ∧
    (∀ d, (Dec.init s).token = .ok (.null, d) → Size.parse maxLen maxKeys r s = .err .invalidType) := by
  rw [parse_json_mode _ _ _ _ hj hl]
  exact ⟨fun _ h => unmarshalJSON_token_error h, fun _ h hr => unmarshalJSON_object_disabled h hr,
    fun _ _ h hc => unmarshalJSON_not_object h hc, fun _ _ h hr => unmarshalJSON_string_disabled h hr,
    fun _ _ h => unmarshalJSON_bool h, fun _ h => unmarshalJSON_null h⟩

/-- whatever is accepted under a JSON rule starts with `{` (object rule on), a string (string rule on)
or a number -/
theorem accepted_form (maxLen maxKeys : Nat) (r : Rule) (s : Bytes) (z : Nat)
    (hj : r.jsonString = true ∨ r.jsonObject = true) (h : Size.parse maxLen maxKeys r s = .ok z) :
    ∃ tok d, (Dec.init s).token = .ok (tok, d) ∧
      ((tok = .delim 123 ∧ r.jsonObject = true) ∨ (∃ t, tok = .str t ∧ r.jsonString = true) ∨
        ∃ lit, tok = .num lit) :=
  ((parse_ends maxLen maxKeys r s).of_ok h hj).1

/-! ## number and string forms -/

/-- a leading number literal `lit`: the text rules (units never disabled) if only white space follows,
otherwise `unexpectedData` or the decoder's error for what follows -/
theorem number_form (maxLen maxKeys : Nat) (r : Rule) (s lit : Bytes) (d : Dec)
    (hj : r.jsonString = true ∨ r.jsonObject = true) (hl : maxLen = 0 ∨ s.length ≤ maxLen)
    (ht : (Dec.init s).token = .ok (.num lit, d)) :
    (allSpace d.rest = true → Size.parse maxLen maxKeys r s = unmarshalText false lit) ∧
    (allSpace d.rest = false → Size.parse maxLen maxKeys r s = .err .unexpectedData ∨
      ∃ e, d.token = .error e ∧ e ≠ .eof ∧ Size.parse maxLen maxKeys r s = .err (jerr e)) := by
  rw [parse_json_mode _ _ _ _ hj hl]
  exact SizeObject.number_form ht

/-- a leading string with decoded text `t`, string rule on: likewise -/
theorem string_form (maxLen maxKeys : Nat) (r : Rule) (s t : Bytes) (d : Dec)
    (hr : r.jsonString = true) (hl : maxLen = 0 ∨ s.length ≤ maxLen)
    (ht : (Dec.init s).token = .ok (.str t, d)) :
    (allSpace d.rest = true → Size.parse maxLen maxKeys r s = unmarshalText false t) ∧
    (allSpace d.rest = false → Size.parse maxLen maxKeys r s = .err .unexpectedData ∨
      ∃ e, d.token = .error e ∧ e ≠ .eof ∧ Size.parse maxLen maxKeys r s = .err (jerr e)) := by
  rw [parse_json_mode _ _ _ _ (.inl hr) hl]
  exact SizeObject.string_form ht hr

/-! ## exactly one value -/

/-- acceptance under a JSON rule means the decoder read one complete value — an object up to and
including its closing brace (F6) — and what is left of the input is a proper suffix consisting of JSON
white space only -/
theorem single_value (maxLen maxKeys : Nat) (r : Rule) (s : Bytes) (z : Nat)
    (hj : r.jsonString = true ∨ r.jsonObject = true) (h : Size.parse maxLen maxKeys r s = .ok z) :
    ∃ rest, restAfterValue maxKeys r s = some rest ∧ allSpace rest = true ∧ rest <:+ s ∧
      rest.length < s.length :=
  ((parse_ends maxLen maxKeys r s).of_ok h hj).2

/-- anything but white space after a complete value is rejected -/
theorem trailing_rejected (maxLen maxKeys : Nat) (r : Rule) (s rest : Bytes)
    (hj : r.jsonString = true ∨ r.jsonObject = true)
    (hr : restAfterValue maxKeys r s = some rest) (hs : allSpace rest = false) :
    ∃ e, Size.parse maxLen maxKeys r s = .err e := by
  cases h : Size.parse maxLen maxKeys r s with
  | ok z =>
    obtain ⟨rest', h1, h2, _⟩ := single_value maxLen maxKeys r s z hj h
    rw [hr] at h1
    cases h1
    rw [h2] at hs
    cases hs
  | err e => exact ⟨e, rfl⟩
  | panic => exact (no_panic _ _ _ _ h).elim

/-! ## objects, abstractly -/

/-- one `value` member holding an unsigned 64-bit decimal, one `unit` member holding a string, other
members only if allowed, within the key limit: the result is `newSize value unit` -/
theorem object_value (maxKeys : Nat) (du : Bool) (ms : List Member) (kv lit ku s : Bytes)
    (hl : maxKeys = 0 ∨ ms.length ≤ maxKeys) (hv : vals ms = [(kv, .num lit)]) (hu : units ms = [(ku, .str s)])
    (hunk : du = true → unknowns ms = [])
    (h1 : lit ≠ []) (h2 : allDigits lit = true) (h3 : val lit < two64) :
    evalMembers maxKeys du ms = newSize (val lit) s :=
  evalMembers_eq_newSize hl hunk hv (parseUintLit_digits h1 h2 h3) hu

/-- deleting an unknown member anywhere keeps a successful result -/
theorem unknown_deleted (maxKeys : Nat) (du : Bool) (m : Member) (l1 l2 : List Member) (z : Nat)
    (hk : kind m = .unknown) (h : evalMembers maxKeys du (l1 ++ m :: l2) = .ok z) :
    evalMembers maxKeys du (l1 ++ l2) = .ok z := by
  obtain ⟨hl, hunk, _⟩ := evalMembers_ok_iff.mp h
  cases du with
  | true => simp [unknowns, hk] at hunk
  | false =>
    rwa [evalMembers_insert_unknown hk] at h
    simpa only [List.length_append, List.length_cons, Nat.add_assoc] using hl

/-- inserting a permitted unknown member anywhere keeps a successful result while the member count
stays within the limit -/
theorem unknown_inserted (maxKeys : Nat) (m : Member) (l1 l2 : List Member) (z : Nat)
    (hk : kind m = .unknown) (hl : maxKeys = 0 ∨ (l1 ++ l2).length + 1 ≤ maxKeys)
    (h : evalMembers maxKeys false (l1 ++ l2) = .ok z) :
    evalMembers maxKeys false (l1 ++ m :: l2) = .ok z :=
  (evalMembers_insert_unknown hk hl).trans h

/-- the accepted objects are exactly those denoting a size, a condition that does not mention order -/
theorem accepts_iff_denotes (maxKeys : Nat) (du : Bool) (ms : List Member) (z : Nat) :
    evalMembers maxKeys du ms = .ok z ↔ Denotes maxKeys du ms z :=
  evalMembers_ok_iff

/-- success and the value do not depend on the order of the members -/
theorem order_independent (maxKeys : Nat) (du : Bool) (ms ms' : List Member) (hp : ms.Perm ms') (z : Nat) :
    evalMembers maxKeys du ms = .ok z ↔ evalMembers maxKeys du ms' = .ok z := by
  rw [evalMembers_ok_iff, evalMembers_ok_iff]
  exact ⟨Denotes.perm hp, Denotes.perm hp.symm⟩

/-- … and neither does rejection (which of several defects is reported may differ) -/
theorem order_independent_reject (maxKeys : Nat) (du : Bool) (ms ms' : List Member) (hp : ms.Perm ms') :
    (∃ e, evalMembers maxKeys du ms = .err e) → ∃ e, evalMembers maxKeys du ms' = .err e := by
  rw [evalMembers_err_iff_not_denotes, evalMembers_err_iff_not_denotes]
  exact fun h ⟨z, hz⟩ => h ⟨z, hz.perm hp.symm⟩

/-- an object is rejected exactly when it has a defect: too many members, a duplicated or missing
`value`/`unit`, a wrongly typed member, a number that is not an unsigned 64-bit decimal, an unknown key
when those are disallowed, or a value-unit pair that `newSize` refuses -/
theorem defects (maxKeys : Nat) (du : Bool) (ms : List Member) :
    (∃ e, evalMembers maxKeys du ms = .err e) ↔ Defect maxKeys du ms := by
  rw [evalMembers_err_iff_not_denotes]
  exact ⟨fun h => Classical.byContradiction fun hd => h (denotes_of_no_defect hd),
    fun hd ⟨_, hz⟩ => hd.not_denotes hz⟩

/-- the key-limit error is reported exactly when the limit is on, the object has more members than it
allows and the first `maxKeys + 1` members are read without another error -/
theorem too_many_members (maxKeys : Nat) (du : Bool) (ms : List Member) :
    evalMembers maxKeys du ms = .err .tooBig ↔
      maxKeys ≠ 0 ∧ ms.length > maxKeys ∧ ∃ v u, runSteps du none none (ms.take (maxKeys + 1)) = .ok (v, u) := by
  rw [evalMembers_eq]
  split
  · refine iff_of_false ?_ fun ⟨_, _, _⟩ => by omega
    simp [Outcome.bind_eq_err, runSteps_ne, finish_ne]
  · rw [← and_assoc, and_iff_right (by omega)]
    simp [Outcome.bind_eq_err, runSteps_ne]

/-- limit 0 means no limit: the members are read in order, then the final check -/
theorem no_key_limit (du : Bool) (ms : List Member) :
    evalMembers 0 du ms = (runSteps du none none ms).bind fun p => finish p.1 p.2 :=
  (evalMembers_eq 0 du ms).trans (if_pos (.inl rfl))

/-! ## objects, concretely -/

/-- the member loop of the parser, started after `{` on the compact text of `ms` followed by `}`,
computes `evalMembers` (here from any loop state) and stops in front of the brace -/
theorem object_loop_refinement (maxKeys : Nat) (du : Bool) (ms : List (Bytes × JVal)) (hms : wfMembers ms = true)
    (fuel i : Nat) (v : Option Nat) (u : Option Bytes) (rest : Bytes) (S : List TState)
    (hf : ms.length + 1 ≤ fuel) :
    objectLoop maxKeys du fuel i ⟨renderMembers ms ++ 125 :: rest, .objectStart, S⟩ v u =
      (evalLoop maxKeys du i v u (absMembers ms)).map
        (·, ⟨125 :: rest, if ms = [] then .objectStart else .objectComma, S⟩) :=
  objectLoop_reads (readsMembers_render ms hms rest S) fuel i v u (by simpa [absMembers] using hf)

/-- the parser on the compact text of an object is `evalMembers` of its members -/
theorem object_refinement (maxLen maxKeys : Nat) (r : Rule) (ms : List (Bytes × JVal)) (hms : wfMembers ms = true)
    (hr : r.jsonObject = true) (hl : maxLen = 0 ∨ (renderObject ms).length ≤ maxLen) :
    Size.parse maxLen maxKeys r (renderObject ms) = evalMembers maxKeys r.disallowUnknown (absMembers ms) := by
  rw [parse_json_mode _ _ _ _ (.inr hr) hl]
  have := unmarshalJSON_renderObject (mk := maxKeys) ms hms hr (ws := []) rfl
  rwa [List.append_nil] at this

/-- member order in the input text does not matter to acceptance and the value -/
theorem parse_order_independent (maxLen maxKeys : Nat) (r : Rule) (ms ms' : List (Bytes × JVal))
    (hp : ms.Perm ms') (hms : wfMembers ms = true) (hms' : wfMembers ms' = true) (hr : r.jsonObject = true)
    (hl : maxLen = 0 ∨ ((renderObject ms).length ≤ maxLen ∧ (renderObject ms').length ≤ maxLen)) (z : Nat) :
    Size.parse maxLen maxKeys r (renderObject ms) = .ok z ↔
      Size.parse maxLen maxKeys r (renderObject ms') = .ok z := by
  rw [object_refinement _ _ _ ms hms hr (by omega), object_refinement _ _ _ ms' hms' hr (by omega)]
  exact order_independent _ _ _ _ (hp.map _) z

/-- a permitted unknown member with a value of any nesting, anywhere in the text, has no effect on a
successful result -/
theorem nested_unknown_skipped (maxLen maxKeys : Nat) (r : Rule) (l1 l2 : List (Bytes × JVal)) (k : Bytes)
    (x : JVal) (hk : kind (k, x.abs) = .unknown) (hdu : r.disallowUnknown = false)
    (h1 : wfMembers (l1 ++ l2) = true) (h2 : wfMembers (l1 ++ (k, x) :: l2) = true) (hr : r.jsonObject = true)
    (hkeys : maxKeys = 0 ∨ (l1 ++ l2).length + 1 ≤ maxKeys)
    (hl : maxLen = 0 ∨ (renderObject (l1 ++ (k, x) :: l2)).length ≤ maxLen ∧
      (renderObject (l1 ++ l2)).length ≤ maxLen) (z : Nat) :
    Size.parse maxLen maxKeys r (renderObject (l1 ++ (k, x) :: l2)) = .ok z ↔
      Size.parse maxLen maxKeys r (renderObject (l1 ++ l2)) = .ok z := by
  rw [object_refinement _ _ _ _ h2 hr (by omega), object_refinement _ _ _ _ h1 hr (by omega)]
  simp only [absMembers, List.map_append, List.map_cons]
  rw [hdu, evalMembers_insert_unknown hk (by simpa using hkeys)]

/-! ## non-vacuity -/

def dflt : Rule := ⟨false, true, true, false⟩       -- `DefaultRule`: string and object forms
def strict : Rule := ⟨false, true, true, true⟩      -- … and unknown keys disallowed
def objOnly : Rule := ⟨false, false, true, false⟩
def strOnly : Rule := ⟨false, true, false, false⟩
def textOnly : Rule := ⟨false, false, false, false⟩

example : Size.parse 128 16 dflt [123, 34, 118, 97, 108, 117, 101, 34, 58, 49, 44, 34, 117, 110, 105, 116, 34, 58, 34, 75, 105, 66, 34, 125] = .ok 1024 := by decide +kernel   -- {"value":1,"unit":"KiB"}
example : Size.parse 128 16 dflt [123, 34, 117, 110, 105, 116, 34, 58, 34, 75, 105, 66, 34, 44, 34, 118, 97, 108, 117, 101, 34, 58, 49, 125] = .ok 1024 := by decide +kernel   -- {"unit":"KiB","value":1}
example : Size.parse 128 16 dflt [123, 34, 86, 65, 76, 85, 69, 34, 58, 49, 44, 34, 85, 110, 105, 116, 34, 58, 34, 75, 105, 66, 34, 125] = .ok 1024 := by decide +kernel   -- {"VALUE":1,"Unit":"KiB"}
example : Size.parse 128 16 dflt [123, 34, 118, 97, 108, 117, 101, 34, 58, 49, 44, 34, 117, 110, 105, 116, 34, 58, 34, 75, 105, 66, 34, 125, 32, 32] = .ok 1024 := by decide +kernel   -- {"value":1,"unit":"KiB"}  
example : Size.parse 128 16 dflt [123, 34, 118, 97, 108, 117, 101, 34, 58, 49, 44, 34, 117, 110, 105, 116, 34, 58, 34, 75, 105, 66, 34] = .err .unexpectedData := by decide +kernel   -- {"value":1,"unit":"KiB"
example : Size.parse 128 16 dflt [123, 34, 118, 97, 108, 117, 101, 34, 58, 49, 44, 34, 117, 110, 105, 116, 34, 58, 34, 75, 105, 66, 34, 125, 32, 120] = .err .jsonSyntax := by decide +kernel   -- {"value":1,"unit":"KiB"} x
example : Size.parse 128 16 dflt [123, 34, 118, 97, 108, 117, 101, 34, 58, 49, 44, 34, 117, 110, 105, 116, 34, 58, 34, 75, 105, 66, 34, 125, 32, 49] = .err .unexpectedData := by decide +kernel   -- {"value":1,"unit":"KiB"} 1
example : Size.parse 128 16 dflt [49, 50, 32, 51, 52] = .err .unexpectedData := by decide +kernel   -- 12 34
example : Size.parse 128 16 dflt [123, 34, 118, 97, 108, 117, 101, 34, 58, 49, 125] = .err .missingUnit := by decide +kernel   -- {"value":1}
example : Size.parse 128 16 dflt [123, 34, 117, 110, 105, 116, 34, 58, 34, 66, 34, 125] = .err .missingValue := by decide +kernel   -- {"unit":"B"}
example : Size.parse 128 16 dflt [123, 34, 118, 97, 108, 117, 101, 34, 58, 49, 44, 34, 118, 97, 108, 117, 101, 34, 58, 50, 44, 34, 117, 110, 105, 116, 34, 58, 34, 66, 34, 125] = .err .dupValue := by decide +kernel   -- {"value":1,"value":2,"unit":"B"}
example : Size.parse 128 16 dflt [123, 34, 117, 110, 105, 116, 34, 58, 34, 66, 34, 44, 34, 117, 110, 105, 116, 34, 58, 34, 66, 34, 44, 34, 118, 97, 108, 117, 101, 34, 58, 49, 125] = .err .dupUnit := by decide +kernel   -- {"unit":"B","unit":"B","value":1}
example : Size.parse 128 16 dflt [123, 34, 118, 97, 108, 117, 101, 34, 58, 34, 49, 34, 44, 34, 117, 110, 105, 116, 34, 58, 34, 66, 34, 125] = .err .invalidType := by decide +kernel   -- {"value":"1","unit":"B"}
example : Size.parse 128 16 dflt [123, 34, 118, 97, 108, 117, 101, 34, 58, 49, 44, 34, 117, 110, 105, 116, 34, 58, 49, 125] = .err .invalidType := by decide +kernel   -- {"value":1,"unit":1}
example : Size.parse 128 16 dflt [123, 34, 118, 97, 108, 117, 101, 34, 58, 45, 49, 44, 34, 117, 110, 105, 116, 34, 58, 34, 66, 34, 125] = .err .numSyntax := by decide +kernel   -- {"value":-1,"unit":"B"}
example : Size.parse 128 16 dflt [123, 34, 120, 34, 58, 91, 49, 44, 123, 34, 121, 34, 58, 91, 93, 125, 93, 44, 34, 118, 97, 108, 117, 101, 34, 58, 49, 44, 34, 117, 110, 105, 116, 34, 58, 34, 66, 34, 125] = .ok 1 := by decide +kernel   -- {"x":[1,{"y":[]}],"value":1,"unit":"B"}
example : Size.parse 128 16 strict [123, 34, 120, 34, 58, 91, 49, 44, 123, 34, 121, 34, 58, 91, 93, 125, 93, 44, 34, 118, 97, 108, 117, 101, 34, 58, 49, 44, 34, 117, 110, 105, 116, 34, 58, 34, 66, 34, 125] = .err .unexpectedKey := by decide +kernel   -- {"x":[1,{"y":[]}],"value":1,"unit":"B"}
example : Size.parse 128 2 dflt [123, 34, 97, 34, 58, 48, 44, 34, 118, 97, 108, 117, 101, 34, 58, 49, 44, 34, 117, 110, 105, 116, 34, 58, 34, 66, 34, 125] = .err .tooBig := by decide +kernel   -- {"a":0,"value":1,"unit":"B"}
example : Size.parse 128 2 dflt [123, 34, 118, 97, 108, 117, 101, 34, 58, 49, 44, 34, 97, 34, 58, 48, 44, 34, 117, 110, 105, 116, 34, 58, 34, 66, 34, 125] = .err .tooBig := by decide +kernel   -- {"value":1,"a":0,"unit":"B"}
example : Size.parse 128 2 dflt [123, 34, 118, 97, 108, 117, 101, 34, 58, 49, 44, 34, 117, 110, 105, 116, 34, 58, 34, 66, 34, 44, 34, 97, 34, 58, 48, 125] = .err .tooBig := by decide +kernel   -- {"value":1,"unit":"B","a":0}
example : Size.parse 128 2 dflt [123, 34, 118, 97, 108, 117, 101, 34, 58, 49, 44, 34, 117, 110, 105, 116, 34, 58, 34, 66, 34, 125] = .ok 1 := by decide +kernel   -- {"value":1,"unit":"B"}
example : Size.parse 128 0 dflt [123, 34, 97, 34, 58, 48, 44, 34, 118, 97, 108, 117, 101, 34, 58, 49, 44, 34, 117, 110, 105, 116, 34, 58, 34, 66, 34, 125] = .ok 1 := by decide +kernel   -- {"a":0,"value":1,"unit":"B"}
example : Size.parse 128 16 dflt [34, 49, 75, 105, 66, 34] = .ok 1024 := by decide +kernel   -- "1KiB"
example : Size.parse 128 16 objOnly [34, 49, 75, 105, 66, 34] = .err .stringDisabled := by decide +kernel   -- "1KiB"
example : Size.parse 128 16 strOnly [123, 34, 118, 97, 108, 117, 101, 34, 58, 49, 44, 34, 117, 110, 105, 116, 34, 58, 34, 75, 105, 66, 34, 125] = .err .objectDisabled := by decide +kernel   -- {"value":1,"unit":"KiB"}
example : Size.parse 128 16 dflt [91, 49, 93] = .err .expectedObject := by decide +kernel   -- [1]
example : Size.parse 128 16 dflt [116, 114, 117, 101] = .err .invalidType := by decide +kernel   -- true
example : Size.parse 128 16 dflt [110, 117, 108, 108] = .err .invalidType := by decide +kernel   -- null
example : Size.parse 128 16 objOnly [49, 50] = .ok 12 := by decide +kernel   -- 12
example : Size.parse 128 16 dflt [49, 101, 51] = .err .invalidUnit := by decide +kernel   -- 1e3
example : Size.parse 128 16 dflt [49, 46, 48] = .err .invalidUnit := by decide +kernel   -- 1.0
example : Size.parse 128 16 dflt [45, 49] = .err .invalid := by decide +kernel   -- -1
example : Size.parse 128 16 dflt [] = .err .jsonEOF := by decide +kernel   -- 
example : Size.parse 128 16 textOnly [49, 75, 105, 66] = .ok 1024 := by decide +kernel   -- 1KiB

/-- the rendering used in the refinement theorems: `{"x":[1,{"y":[]}],"value":1,"unit":"B"}` -/
def sample : List (Bytes × JVal) :=
  [([120], .arr [.num [49], .obj [([121], .arr [])]]), (keyValue, .num [49]), (keyUnit, .str [66])]

example : renderObject sample = [123, 34, 120, 34, 58, 91, 49, 44, 123, 34, 121, 34, 58, 91, 93, 125, 93, 44, 34, 118, 97, 108, 117, 101, 34, 58, 49, 44, 34, 117, 110, 105, 116, 34, 58, 34, 66, 34, 125] := by decide +kernel
example : wfMembers sample = true := by decide +kernel
example : absMembers sample = [([120], .other), (keyValue, .num [49]), (keyUnit, .str [66])] := by decide +kernel
example : evalMembers 16 false (absMembers sample) = .ok 1 := by decide +kernel
example : evalMembers 2 false (absMembers sample) = .err .tooBig := by decide +kernel
example : evalMembers 16 true (absMembers sample) = .err .unexpectedKey := by decide +kernel

end U.Props.C12
