import UtilModel.Lemmas.Roman
import UtilModel.Lemmas.CodeTiesRoman
/-!
# C10 — Roman parser recognises exactly the documented numerals with the right value

`Roman.parse maxLen de s` models `DefaultParser(input, r)` (after fix F1) with `MaxInputLength = maxLen`
and `r & RuleDisableEmptyAsZero != 0 = de`; `Roman.valid` models `Valid`. Bytes: `M`=77, `D`=68, `C`=67,
`L`=76, `X`=88, `V`=86, `I`=73.

The specification (`up`, `forms`, `formValue`, `value`, `Numeral`) is stated here without reference to the
model. Go computes in `uint64`; the model applies `% two64` to the sum, and so does `accepts_iff`, which is
therefore exact for every text and every limit. `accepts_iff_small` removes the reduction whenever
`1000 * s.length < 2^64` (every text within a non-zero limit up to 2^54, in particular the default 128):
the value of a numeral is at most 1000 per byte (`value_le`).
The Go functions return the zero `Number` together with every error; `Outcome.err` carries no value.
-/
namespace U.Props.C10

/-- ASCII upper-casing of a text -/
def up (s : Bytes) : Bytes := s.map toUpperAscii

/-- the twelve upper-case forms of one group written with the symbols `one`, `five`, `ten`:
    additive `five^a one^b` (`a ≤ 1`, `b ≤ 4`), then the subtractive four and nine -/
def forms (one five ten : Nat) : List Bytes :=
  ((List.range 2).flatMap fun a => (List.range 5).map fun b => List.replicate a five ++ List.replicate b one)
    ++ [[one, five], [one, ten]]

/-- digit value of a form: 4 and 9 for the subtractive forms, otherwise five per `five` and one per `one` -/
def formValue (one five ten : Nat) (g : Bytes) : Nat :=
  if g = [one, five] then 4 else if g = [one, ten] then 9 else 5 * g.count five + g.count one

/-- the number denoted by `M^k h t u` -/
def value (k : Nat) (h t u : Bytes) : Nat :=
  1000 * k + 100 * formValue 67 68 77 h + 10 * formValue 88 76 67 t + formValue 73 86 88 u

/-- `s` is, ignoring case, `M^k` followed by a hundreds, a tens and a units form -/
def Numeral (s : Bytes) (k : Nat) (h t u : Bytes) : Prop :=
  up s = List.replicate k 77 ++ h ++ t ++ u ∧ h ∈ forms 67 68 77 ∧ t ∈ forms 88 76 67 ∧ u ∈ forms 73 86 88

-- the helper lemmas use the same definitions under other names
example (one five ten : Nat) : forms one five ten = Roman.forms12 one five ten := rfl
example : @formValue = @Roman.gval := rfl
example : @up = @Roman.up := rfl
example : @value = @Roman.groupsValue := rfl

/-- `forms` is what its description says -/
theorem forms_spec (one five ten : Nat) (g : Bytes) :
    g ∈ forms one five ten ↔
      (∃ a b, a ≤ 1 ∧ b ≤ 4 ∧ g = List.replicate a five ++ List.replicate b one) ∨ g = [one, five] ∨ g = [one, ten] :=
  Roman.forms12_iff one five ten g

/-- **acceptance and value** (exact, `uint64` arithmetic): within the limit, the empty text is zero unless the
rule forbids it, and a non-empty text is accepted with result `n` iff it is a numeral whose value is `n` -/
theorem accepts_iff (maxLen : Nat) (de : Bool) (s : Bytes) (n : Nat) :
    Roman.parse maxLen de s = .ok n ↔
      (maxLen = 0 ∨ s.length ≤ maxLen) ∧
      ((s = [] ∧ de = false ∧ n = 0) ∨
       (s ≠ [] ∧ ∃ k h t u, Numeral s k h t u ∧ n = value k h t u % two64)) := by
  by_cases hne : s = []
  · subst hne
    cases de <;> simp [Roman.parse_nil, eq_comm]
  by_cases hlen : maxLen = 0 ∨ s.length ≤ maxLen
  · rw [Roman.parse_eq de hne hlen]
    constructor
    · intro hp
      refine ⟨hlen, .inr ⟨hne, ?_⟩⟩
      cases hsh : Roman.shape s with
      | none =>
        rw [hsh] at hp
        cases hp
      | some q =>
        obtain ⟨ms, h, t, u⟩ := q
        rw [hsh] at hp
        obtain ⟨rfl, hm, hf⟩ := Roman.shape_sound hsh
        exact ⟨ms.length, Roman.up h, Roman.up t, Roman.up u,
          ⟨by rw [up, ← hm, ← Roman.up_append, ← Roman.up_append, ← Roman.up_append]; rfl, hf⟩, (Outcome.ok.inj hp).symm⟩
    · rintro ⟨-, ⟨e, -⟩ | ⟨-, k, h, t, u, ⟨hs, hh, ht, hu⟩, rfl⟩⟩
      · exact absurd e hne
      -- cut `s` where its upper-casing is cut
      obtain ⟨s2, u', rfl, hs2, rfl⟩ := List.map_eq_append_iff.mp hs
      obtain ⟨s1, t', rfl, hs1, rfl⟩ := List.map_eq_append_iff.mp hs2
      obtain ⟨ms, h', rfl, hm, rfl⟩ := List.map_eq_append_iff.mp hs1
      rw [Roman.shape_complete hm hh ht hu, ← (Roman.up_eq_replicate_iff.mp hm).1]
      rfl
  · rw [Roman.parse_too_long de (fun h0 => hlen (.inl h0)) (Nat.lt_of_not_le fun h => hlen (.inr h))]
    simp [hlen]

/-- a numeral is worth at most 1000 per byte -/
theorem value_le (s : Bytes) (k : Nat) (h t u : Bytes) (hN : Numeral s k h t u) :
    value k h t u ≤ 1000 * s.length := by
  have hl : s.length = k + h.length + t.length + u.length := by
    rw [← Roman.up_length, show Roman.up s = _ from hN.1]
    simp only [List.length_append, List.length_replicate]
  have a := Roman.gval_le 67 68 77 h
  have b := Roman.gval_le 88 76 67 t
  have c := Roman.gval_le 73 86 88 u
  show Roman.groupsValue k h t u ≤ _
  unfold Roman.groupsValue
  omega

/-- **acceptance and value** without the `uint64` reduction, for texts shorter than 2^64 / 1000 bytes -/
theorem accepts_iff_small (maxLen : Nat) (de : Bool) (s : Bytes) (n : Nat) (hsmall : 1000 * s.length < two64) :
    Roman.parse maxLen de s = .ok n ↔
      (maxLen = 0 ∨ s.length ≤ maxLen) ∧
      ((s = [] ∧ de = false ∧ n = 0) ∨
       (s ≠ [] ∧ ∃ k h t u, Numeral s k h t u ∧ n = value k h t u)) := by
  rw [accepts_iff]
  refine and_congr_right fun _ => or_congr_right (and_congr_right fun _ => ?_)
  refine exists_congr fun k => exists_congr fun h => exists_congr fun t => exists_congr fun u => ?_
  refine and_congr_right fun hN => ?_
  rw [Nat.mod_eq_of_lt (Nat.lt_of_le_of_lt (value_le s k h t u hN) hsmall)]

/-- **the validity check accepts exactly what the parser accepts** -/
theorem valid_iff_parse (maxLen : Nat) (de : Bool) (s : Bytes) :
    Roman.valid maxLen de s = .ok () ↔ ∃ n, Roman.parse maxLen de s = .ok n := by
  rw [Roman.valid_eq_map_parse]
  cases Roman.parse maxLen de s <;> simp [Outcome.map]

/-- … i.e. exactly the numerals (and the empty text unless the rule forbids it) within the limit -/
theorem valid_iff (maxLen : Nat) (de : Bool) (s : Bytes) :
    Roman.valid maxLen de s = .ok () ↔
      (maxLen = 0 ∨ s.length ≤ maxLen) ∧
      ((s = [] ∧ de = false) ∨ (s ≠ [] ∧ ∃ k h t u, Numeral s k h t u)) := by
  simp only [valid_iff_parse, accepts_iff]
  constructor
  · rintro ⟨n, hlen, ⟨h1, h2, -⟩ | ⟨hne, k, h, t, u, hN, -⟩⟩
    · exact ⟨hlen, .inl ⟨h1, h2⟩⟩
    · exact ⟨hlen, .inr ⟨hne, k, h, t, u, hN⟩⟩
  · rintro ⟨hlen, ⟨h1, h2⟩ | ⟨hne, k, h, t, u, hN⟩⟩
    · exact ⟨0, hlen, .inl ⟨h1, h2, rfl⟩⟩
    · exact ⟨_, hlen, .inr ⟨hne, k, h, t, u, hN, rfl⟩⟩

/-- **errors**: over-long input (limit non-zero) is refused with the dedicated error before anything else … -/
theorem too_long (maxLen : Nat) (de : Bool) (s : Bytes) (h0 : maxLen ≠ 0) (h : s.length > maxLen) :
    Roman.parse maxLen de s = .err .tooLong ∧ Roman.valid maxLen de s = .err .tooLong :=
  ⟨Roman.parse_too_long de h0 h, by rw [Roman.valid_eq_map_parse, Roman.parse_too_long de h0 h]; rfl⟩

/-- … every other text that is not accepted is refused as invalid … -/
theorem rejected_invalid (maxLen : Nat) (de : Bool) (s : Bytes) (hlen : maxLen = 0 ∨ s.length ≤ maxLen)
    (hrej : ¬ ∃ n, Roman.parse maxLen de s = .ok n) :
    Roman.parse maxLen de s = .err .invalid ∧ Roman.valid maxLen de s = .err .invalid := by
  have hp : Roman.parse maxLen de s = .err .invalid := by
    by_cases hne : s = []
    · subst hne
      rw [Roman.parse_nil] at hrej ⊢
      cases de
      · exact absurd ⟨0, rfl⟩ hrej
      · rfl
    · rw [Roman.parse_eq de hne hlen] at hrej ⊢
      cases hsh : Roman.shape s with
      | none => rfl
      | some q =>
        obtain ⟨ms, h, t, u⟩ := q
        rw [hsh] at hrej
        exact absurd ⟨_, rfl⟩ hrej
  exact ⟨hp, by rw [Roman.valid_eq_map_parse, hp]; rfl⟩

/-- … so parser and validity check always agree and end in one of three ways … -/
theorem outcome_cases (maxLen : Nat) (de : Bool) (s : Bytes) :
    (∃ n, Roman.parse maxLen de s = .ok n ∧ Roman.valid maxLen de s = .ok ()) ∨
    (Roman.parse maxLen de s = .err .tooLong ∧ Roman.valid maxLen de s = .err .tooLong) ∨
    (Roman.parse maxLen de s = .err .invalid ∧ Roman.valid maxLen de s = .err .invalid) := by
  by_cases hlen : maxLen = 0 ∨ s.length ≤ maxLen
  · by_cases hacc : ∃ n, Roman.parse maxLen de s = .ok n
    · obtain ⟨n, hn⟩ := hacc
      exact Or.inl ⟨n, hn, (valid_iff_parse maxLen de s).mpr ⟨n, hn⟩⟩
    · exact Or.inr (Or.inr (rejected_invalid maxLen de s hlen hacc))
  · exact Or.inr (Or.inl (too_long maxLen de s (fun h => hlen (Or.inl h)) (by omega)))

/-- … never in a run-time panic (`input[0]`, `input[1]` and `p[i+2]` are in range) -/
theorem no_panic (maxLen : Nat) (de : Bool) (s : Bytes) :
    Roman.parse maxLen de s ≠ .panic ∧ Roman.valid maxLen de s ≠ .panic := by
  rcases outcome_cases maxLen de s with ⟨n, h1, h2⟩ | ⟨h1, h2⟩ | ⟨h1, h2⟩ <;> rw [h1, h2] <;> simp

/-- **case**: what is accepted, with which value, and what is over the limit depend on the text through `up`
only, so texts that differ only in letter case have the same outcome … -/
theorem case_insensitive (maxLen : Nat) (de : Bool) (s s' : Bytes) (h : up s = up s') :
    Roman.parse maxLen de s = Roman.parse maxLen de s' ∧ Roman.valid maxLen de s = Roman.valid maxLen de s' := by
  have len : s.length = s'.length := by simpa [up] using congrArg List.length h
  have nil : s = [] ↔ s' = [] := by rw [← List.length_eq_zero_iff, len, List.length_eq_zero_iff]
  have ok : ∀ n, Roman.parse maxLen de s = .ok n ↔ Roman.parse maxLen de s' = .ok n := fun n => by
    simp only [accepts_iff, Numeral, h, len, nil, ne_eq]
  have hp : Roman.parse maxLen de s = Roman.parse maxLen de s' := by
    by_cases hlen : maxLen = 0 ∨ s.length ≤ maxLen
    · by_cases hacc : ∃ n, Roman.parse maxLen de s = .ok n
      · obtain ⟨n, hn⟩ := hacc
        rw [hn, (ok n).mp hn]
      · rw [(rejected_invalid maxLen de s hlen hacc).1,
          (rejected_invalid maxLen de s' (len ▸ hlen) fun ⟨n, hn⟩ => hacc ⟨n, (ok n).mpr hn⟩).1]
    · have h0 : maxLen ≠ 0 := fun h => hlen (.inl h)
      rw [(too_long maxLen de s h0 (by omega)).1, (too_long maxLen de s' h0 (by omega)).1]
  exact ⟨hp, by rw [Roman.valid_eq_map_parse, Roman.valid_eq_map_parse, hp]⟩

/-- … in particular the text and its upper-casing -/
theorem case_invariant (maxLen : Nat) (de : Bool) (s : Bytes) :
    Roman.parse maxLen de s = Roman.parse maxLen de (up s) ∧
      Roman.valid maxLen de s = Roman.valid maxLen de (up s) :=
  case_insensitive maxLen de s (up s) (Roman.up_up s).symm

/-! non-vacuity, and the defect that fix F1 removed (lower-case subtractive forms) -/
example : Roman.parse 128 false [77,67,77,88,67,73,86] = .ok 1994 := by decide +kernel          -- MCMXCIV
example : Roman.parse 128 false [109,99,109,120,99,105,118] = .ok 1994 := by decide +kernel     -- mcmxciv
example : Roman.parse 128 false [105,118] = .ok 4 := by decide +kernel                          -- iv (F1)
example : Roman.parse 128 false [73,73,73,73] = .ok 4 := by decide +kernel                      -- IIII
example : Roman.parse 128 false [] = .ok 0 := by decide +kernel
example : Roman.parse 128 true [] = .err .invalid := by decide +kernel
example : Roman.parse 128 false [73,73,73,73,73] = .err .invalid := by decide +kernel           -- IIIII
example : Roman.parse 128 false [73,77] = .err .invalid := by decide +kernel                    -- IM
example : Roman.parse 128 false [86,73,86] = .err .invalid := by decide +kernel                 -- VIV
example : Roman.parse 3 false [73,73,73,73] = .err .tooLong := by decide +kernel
example : Roman.valid 128 false [120,76,105,73] = .ok () := by decide +kernel                   -- xLiI
example : Numeral [109,99,109,120,99,105,118] 1 [67,77] [88,67] [73,86] := by unfold Numeral; decide +kernel
example : value 1 [67,77] [88,67] [73,86] = 1994 := by decide +kernel

/-- **tie to the source**: `parseGroup` as translated from `roman/parse.go` on this run never needs an
out-of-range byte and computes the model's value for every input, unit and pair of symbols -/
theorem parseGroup_code_tie (input : Bytes) (unit d5 d10 : Nat) :
    Roman.parseGroup input unit d5 d10 = .ok (Gen.roman_parseGroup input unit d5 d10) :=
  CodeTies.parseGroup_tie input unit d5 d10

end U.Props.C10
