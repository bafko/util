import UtilModel.Lemmas.SizeFormat
/-!
# C13 — Shortened and pretty size renderings are exact and maximal
-/
namespace U.Props.C13
open U.Size

/-- the binary units and their multipliers (specification; compared with the generated tables below) -/
def binaryUnits : List (Bytes × Nat) :=
  [([66], 1), ([75, 105, 66], 1024), ([77, 105, 66], 1024 ^ 2), ([71, 105, 66], 1024 ^ 3),
   ([84, 105, 66], 1024 ^ 4), ([80, 105, 66], 1024 ^ 5), ([69, 105, 66], 1024 ^ 6)]

/-- generated facts: the loop's unit list, final unit, mask and shift are the ones the spec expects -/
theorem tables : Gen.size_shortenUnits ++ [Gen.size_shortenLast] = binaryUnits.map (·.1) ∧
    Gen.size_shortenMask = 1023 ∧ Gen.size_shortenShift = 10 ∧ Gen.size_Byte = [66] := by decide

private theorem binaryUnits_mult : ∀ j < 7, (binaryUnits[j]?).map (·.2) = some (1024 ^ j) := by decide

/-- **exact and maximal**: the value times the unit's multiplier is the size; the unit is the k-th
binary unit; no larger binary unit (up to EiB) divides the size. Zero gives `0 B`. -/
theorem shorten_exact_maximal (s : Nat) (hs : s < two64) :
    ∃ k, k ≤ 6 ∧ binaryUnits[k]? = some ((shorten s).2, 1024 ^ k) ∧ (shorten s).1 * 1024 ^ k = s ∧
      (s ≠ 0 → k < 6 → ¬ (1024 ^ (k + 1) ∣ s)) ∧ (s = 0 → k = 0 ∧ (shorten s).1 = 0) := by
  unfold shorten
  by_cases h0 : s = 0
  · subst h0
    exact ⟨0, by omega, by decide, by simp, by simp, by simp⟩
  · rw [if_neg h0]
    obtain ⟨j, hj, hv, hu, hne⟩ := shortenLoop_spec Gen.size_shortenUnits s
    have hlen : Gen.size_shortenUnits.length = 6 := by decide
    rw [hlen] at hj hne
    rw [tables.1, List.getElem?_map] at hu
    have hm := binaryUnits_mult j (by omega)
    generalize shortenLoop Gen.size_shortenUnits s = r at *
    refine ⟨j, hj, ?_, hv.symm, ?_, fun h => absurd h h0⟩
    · cases he : binaryUnits[j]? with
      | none => rw [he] at hu; cases hu
      | some e =>
        rw [he] at hu hm
        rw [← Option.some.inj hu, ← Option.some.inj hm]
    · intro _ hlt hdvd
      rw [hv, Nat.pow_succ, Nat.mul_comm r.1, Nat.mul_dvd_mul_iff_left (Nat.pow_pos (by decide))] at hdvd
      have := hne hlt
      omega

/-- **default rendering**: the value immediately followed by the unit (also with `FormatHTML` alone) -/
theorem plain (s f : Nat) (hf : hasFlag f Gen.size_FormatPretty = false) :
    Size.format [] s f = dec (shorten s).1 ++ (shorten s).2 := by
  have : separator f = [] := by unfold separator; rw [hf]; rfl
  rw [format_eq, this, withSeps_nil, List.nil_append]

/-- **pretty rendering**: every digit that has a multiple of three digits to its right is followed by
one separator (a space, or `&nbsp;` with `FormatHTML`) — so the digits are grouped in threes from the
right and one separator stands before the unit — and nothing else is added. -/
theorem pretty (s f : Nat) (hf : hasFlag f Gen.size_FormatPretty = true) :
    Size.format [] s f =
      withSeps (if hasFlag f Gen.size_FormatHTML then [38, 110, 98, 115, 112, 59] else [32])
        (fun i => decide (((dec (shorten s).1).length - 1 - i) % 3 = 0)) (dec (shorten s).1) 0
      ++ (shorten s).2 := by
  have : separator f = (if hasFlag f Gen.size_FormatHTML then [38, 110, 98, 115, 112, 59] else [32]) := by
    unfold separator
    rw [hf]
    cases hasFlag f Gen.size_FormatHTML <;> rfl
  rw [format_eq, this, List.nil_append]

/-! non-vacuity -/
example : shorten 1024 = (1, [75, 105, 66]) ∧ shorten 1025 = (1025, [66]) ∧ shorten 0 = (0, [66]) := by decide +kernel
example : shorten (2 ^ 64 - 2 ^ 60) = (15, [69, 105, 66]) := by decide +kernel
example : Size.format [] 10000000 1 = [49,48,32,48,48,48,32,48,48,48,32,66] := by decide +kernel      -- "10 000 000 B"
example : Size.format [] 1234 3 = [49,38,110,98,115,112,59,50,51,52,38,110,98,115,112,59,66] := by decide +kernel

theorem string_paths (s : Nat) :
    Size.toString s = Size.format [] s 0 ∧ prettyString s = Size.format [] s 1 ∧ prettyHTML s = Size.format [] s 3 ∧
    bytesString s = dec s ∧ hasFlag 1 Gen.size_FormatPretty = true ∧ hasFlag 3 Gen.size_FormatPretty = true ∧
    hasFlag 3 Gen.size_FormatHTML = true ∧ hasFlag 1 Gen.size_FormatHTML = false ∧ hasFlag 0 Gen.size_FormatPretty = false := by
  refine ⟨rfl, rfl, rfl, rfl, ?_, ?_, ?_, ?_, ?_⟩ <;> decide

end U.Props.C13
