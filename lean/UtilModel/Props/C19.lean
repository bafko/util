import UtilModel.Lemmas.UURandom
import UtilModel.Lemmas.LockProto
/-!
# C19 — Random UUIDs are always version 4 / variant 1, the other 122 bits are free; generation under the mutex

`UU.randomID a b` models `RandomID()` given the two draws `a, b` of `twoRandomUint63`
(`uint64(random.Int63())`, hence 63-bit values: `msb = false`). The bit expressions are the generated
`Gen.uu_rndHigher` / `Gen.uu_rndLower`. The bit facts come from `Lemmas/UURandom.lean`
(`rnd_fixed_hi`, `rnd_fixed_lo`, `rnd_onto` — kernel-only proofs by mask algebra; no `bv_decide`).

Finding: the variant claim needs the second draw to be 63-bit. `Lower = (b >> 1) | 1<<63`, so bit 62 of
`Lower` is bit 63 of `b`; for a full 64-bit `b` with the top bit set the variant would be 2 or 3
(`variant_needs_63bit`). `rand.Int63` never sets that bit, so the Go code is correct as written.
The version claim holds for every `a` (bit 63 of `a` is shifted out).
-/
namespace U.Props.C19
open U.UU

/-- **version 4** for every pair of draws (even full 64-bit ones) -/
theorem version4 (a b : BitVec 64) : (randomID a b).version = 4 :=
  (version_eq_four_iff _).mpr (rnd_fixed_hi a b)

/-- **variant 1** (bits `10`) for every first draw and every 63-bit second draw -/
theorem variant1 (a b : BitVec 64) (hb : b.msb = false) : (randomID a b).variant = 1 :=
  (variant_eq_one_iff _).mpr (rnd_fixed_lo a b hb)

/-- the 63-bit hypothesis of `variant1` cannot be dropped -/
theorem variant_needs_63bit : ∃ a b : BitVec 64, (randomID a b).variant ≠ 1 :=
  ⟨0#64, 9223372036854775808#64, by decide⟩

/-- **the remaining 122 bits are free and independent**: every ID with version 4 and variant 1 is produced
by some pair of 63-bit draws, so each of the other 60 bits of `Higher` and 62 bits of `Lower` takes both
values, in every combination. The witnesses are explicit. -/
theorem free_bits_onto (h l : BitVec 64) (hv : (⟨h, l⟩ : ID).version = 4) (hr : (⟨h, l⟩ : ID).variant = 1) :
    ∃ a b : BitVec 64, a.msb = false ∧ b.msb = false ∧ randomID a b = ⟨h, l⟩ := by
  obtain ⟨ha, hb, e1, e2⟩ := rnd_onto h l ((version_eq_four_iff _).mp hv) ((variant_eq_one_iff _).mp hr)
  exact ⟨_, _, ha, hb, by rw [randomID, e1, e2]⟩

/-- **exactly six bits are constant**: bits 12–15 of `Higher` are `0100`, bits 62–63 of `Lower` are `10`;
by `free_bits_onto` no other bit is. -/
theorem fixed_bits (a b : BitVec 64) (hb : b.msb = false) :
    (randomID a b).hi &&& 0xf000#64 = 0x4000#64 ∧
    (randomID a b).lo &&& 0xc000000000000000#64 = 0x8000000000000000#64 :=
  ⟨rnd_fixed_hi a b, rnd_fixed_lo a b hb⟩

/-- each free bit really takes both values: flipping any bit of an attainable ID outside the six fixed
ones gives another attainable ID -/
theorem free_bit_flips (h l : BitVec 64) (hv : (⟨h, l⟩ : ID).version = 4) (hr : (⟨h, l⟩ : ID).variant = 1)
    (mh ml : BitVec 64) (hmh : mh &&& 0xf000#64 = 0#64) (hml : ml &&& 0xc000000000000000#64 = 0#64) :
    ∃ a b : BitVec 64, a.msb = false ∧ b.msb = false ∧ randomID a b = ⟨h ^^^ mh, l ^^^ ml⟩ :=
  free_bits_onto _ _
    ((version_eq_four_iff _).mpr (and_xor_of_and_eq_zero _ _ _ _ ((version_eq_four_iff _).mp hv) hmh))
    ((variant_eq_one_iff _).mpr (and_xor_of_and_eq_zero _ _ _ _ ((variant_eq_one_iff _).mp hr) hml))

/-! non-vacuity -/
example : randomID 0#64 0#64 = ⟨0x4000#64, 0x8000000000000000#64⟩ := by decide +kernel
example : randomID 0x7fffffffffffffff#64 0x7fffffffffffffff#64 =
    ⟨0xffffffffffff4fff#64, 0xbfffffffffffffff#64⟩ := by decide +kernel
example : (randomID 0x123456789abcdef0#64 0x0fedcba987654321#64).version = 4 := by decide +kernel
example : (randomID 0x123456789abcdef0#64 0x0fedcba987654321#64).variant = 1 := by decide +kernel
example : (⟨0x4000#64, 0xc000000000000000#64⟩ : ID).variant = 2 := by decide +kernel

/-! ## Protocol part: concurrent calls under the mutex (small-step model, `Model/LockProto.lean`) -/

open U.LockProto in
/-- generated structure fact: every function using the shared generator locks the mutex first and defers
the unlock (there is exactly one such function, `twoRandomUint63`) -/
theorem generator_only_under_mutex : Gen.uu_randomUnderMutex = true ∧ Gen.uu_randomUses = 1 := by decide

open U.LockProto in
/-- **mutual exclusion**: under every schedule at most one thread is between `Lock` and `Unlock` -/
theorem mutual_exclusion (sched : List Nat) (t u : Nat)
    (ht : (exec sched).pcs t ≠ .idle) (hu : (exec sched).pcs u ≠ .idle) : t = u :=
  (inv_exec sched).excl t u ht hu

open U.LockProto in
/-- **no interleaving of draws**: under every schedule the k-th completed call received exactly the
stream positions 2k and 2k+1 — its two draws are adjacent and no other call's draw falls between them -/
theorem calls_get_consecutive_pairs (sched : List Nat) : DoneOk (exec sched).done 0 :=
  (inv_exec sched).done

open U.LockProto in
/-- hence distinct completed calls read disjoint positions of the generator's stream -/
theorem completed_calls_disjoint (sched : List Nat) (i j : Nat) (ci cj : Nat × Nat × Nat)
    (hi : (exec sched).done[i]? = some ci) (hj : (exec sched).done[j]? = some cj) (hij : i ≠ j) :
    ci.2.1 ≠ cj.2.1 ∧ ci.2.1 ≠ cj.2.2 ∧ ci.2.2 ≠ cj.2.1 ∧ ci.2.2 ≠ cj.2.2 := by
  have hd := (doneOk_iff _ _).mp (calls_get_consecutive_pairs sched)
  have a := hd i ci hi
  have b := hd j cj hj
  omega

open U.LockProto in
/-- without the mutex the same threads can interleave their draws: a schedule of two threads in which
the first completed call holds positions 0 and 2 -/
theorem without_mutex_draws_interleave :
    ([0, 1, 0, 1, 0, 1, 0, 1].foldl stepNoLock init).done = [(0, 0, 2), (1, 1, 3)] := by decide

open U.LockProto in
example : (exec [0, 1, 0, 1, 0, 1, 0, 1, 1, 1, 1, 1]).done = [(0, 0, 1), (1, 2, 3)] := by decide +kernel

end U.Props.C19
