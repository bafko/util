import UtilModel.Lemmas.DateText
import UtilModel.Lemmas.CodeTiesDate
/-!
# C09 — Date parser accepts only real calendar dates and keeps their components

`Date.parse maxLen disableBasic s` models `DefaultParser(input, r)` (after fix F3) with
`MaxInputLength = maxLen` and `r & RuleDisableBasic != 0 = disableBasic`.
`Date.text ext ys m1 m2 d1 d2` is the text `YYYY-MM-DD` (`ext`) or `YYYYMMDD` spelled with the given
year digits and month/day bytes.
-/
namespace U.Props.C09
open U.Date U.GoTime

/-- the model's `validDate` (F3) is the calendar specification -/
theorem validDate_iff (y : Nat) (m d : Nat) : validDate y m d = true ↔ ValidDate y m d :=
  validDate_iff_valid y m d

/-- **acceptance is exactly the grammar plus calendar validity** (within the limit, basic form only when
allowed): 4–9 year digits, two month digits, two day digits, separators both present or both absent,
naming an existing day. -/
theorem accepts_iff (maxLen : Nat) (disableBasic : Bool) (s : Bytes) :
    (∃ d, parse maxLen disableBasic s = .ok d) ↔
      (maxLen = 0 ∨ s.length ≤ maxLen) ∧
      ∃ ext ys m1 m2 d1 d2, s = text ext ys m1 m2 d1 d2 ∧ allDigits ys = true ∧ 4 ≤ ys.length ∧ ys.length ≤ 9 ∧
        isDigit m1 = true ∧ isDigit m2 = true ∧ isDigit d1 = true ∧ isDigit d2 = true ∧
        ValidDate (val ys) (val [m1, m2]) (val [d1, d2]) ∧ (ext = false → disableBasic = false) := by
  constructor
  · rintro ⟨d, h⟩
    obtain ⟨hlen, ext, ys, m1, m2, d1, d2, hs, hys, h4, h9, hm1, hm2, hd1, hd2, hv, hb, _⟩ :=
      parse_sound maxLen disableBasic s d h
    exact ⟨hlen, ext, ys, m1, m2, d1, d2, hs, hys, h4, h9, hm1, hm2, hd1, hd2, hv, hb⟩
  · rintro ⟨hlen, ext, ys, m1, m2, d1, d2, rfl, hys, h4, h9, hm1, hm2, hd1, hd2, hv, hb⟩
    rw [parse_complete maxLen disableBasic ext ys m1 m2 d1 d2 hys ⟨h4, h9⟩ hm1 hm2 hd1 hd2 rfl rfl rfl hv hlen]
    cases ext
    · simp [hb rfl]
    · simp

/-- **components**: an accepted text yields exactly the written year, month and day. -/
theorem components (maxLen : Nat) (disableBasic : Bool) (s : Bytes) (d : Date)
    (h : parse maxLen disableBasic s = .ok d) :
    ∃ ext ys m1 m2 d1 d2, s = text ext ys m1 m2 d1 d2 ∧ d.date = ((val ys : Int), val [m1, m2], val [d1, d2]) := by
  obtain ⟨_, ext, ys, m1, m2, d1, d2, hs, hys, _, h9, _, _, _, _, hv, _, rfl⟩ := parse_sound maxLen disableBasic s d h
  refine ⟨ext, ys, m1, m2, d1, d2, hs, ?_⟩
  have h9' : val ys < 10 ^ 9 := Nat.lt_of_lt_of_le (val_lt ys hys) (Nat.pow_le_pow_right (by decide) h9)
  rw [date_new_valid hv ⟨by omega, by omega⟩]
  simp

/-- **errors**: over-long input (limit non-zero) is refused with the dedicated error before anything else … -/
theorem too_long (maxLen : Nat) (disableBasic : Bool) (s : Bytes) (h0 : maxLen ≠ 0) (h : s.length > maxLen) :
    parse maxLen disableBasic s = .err .tooLong := by
  rw [parse_eq, if_neg (by omega), if_pos ⟨h0, h⟩]

/-- … empty input is invalid … -/
theorem empty_invalid (maxLen : Nat) (disableBasic : Bool) : parse maxLen disableBasic [] = .err .invalid :=
  rfl

/-- … and a well-formed basic text of a real date is refused with the dedicated error when the rule disables it. -/
theorem basic_disabled (maxLen : Nat) (ys : Bytes) (m1 m2 d1 d2 : Nat)
    (hys : allDigits ys = true) (hl : 4 ≤ ys.length ∧ ys.length ≤ 9)
    (hm1 : isDigit m1 = true) (hm2 : isDigit m2 = true) (hd1 : isDigit d1 = true) (hd2 : isDigit d2 = true)
    (hv : ValidDate (val ys) (val [m1, m2]) (val [d1, d2]))
    (hlen : maxLen = 0 ∨ (text false ys m1 m2 d1 d2).length ≤ maxLen) :
    parse maxLen true (text false ys m1 m2 d1 d2) = .err .basicDisabled := by
  rw [parse_complete maxLen true false ys m1 m2 d1 d2 hys hl hm1 hm2 hd1 hd2 rfl rfl rfl hv hlen]
  rfl

/-- every rejection carries one of the three documented classes (never a panic: see C18) -/
theorem error_classes (maxLen : Nat) (disableBasic : Bool) (s : Bytes) (e : Err)
    (h : parse maxLen disableBasic s = .err e) : e = .invalid ∨ e = .tooLong ∨ e = .basicDisabled := by
  rcases (parse_ends maxLen disableBasic s).of_err h with ⟨rfl, _⟩ | rfl | rfl <;> simp

/-! non-vacuity and the defect that fix F3 removed -/
example : parse 10 false [50,48,50,52,45,48,50,45,50,57] = .ok (new 2024 2 29) := by decide +kernel   -- 2024-02-29
example : parse 10 false [50,48,50,50,45,48,50,45,51,48] = .err .invalid := by decide +kernel          -- 2022-02-30
example : parse 10 false [50,48,50,50,45,48,48,45,49,48] = .err .invalid := by decide +kernel          -- 2022-00-10
example : parse 10 true [50,48,50,52,48,50,50,57] = .err .basicDisabled := by decide +kernel           -- 20240229
example : parse 10 false [50,48,50,52,45,48,50,50,57] = .err .invalid := by decide +kernel             -- 2024-0229

/-- **tie to the source**: `validDate` as translated from `date/parse.go` on this run equals the model's
calendar check (which uses the Euclidean remainder; the translated Go uses `year%4 == 0 && (year%100 != 0 ||
year%400 == 0)` — the two agree for every integer year) -/
theorem validDate_code_tie (y : Int) (m d : Nat) : validDate y m d = Gen.date_validDate y m d :=
  CodeTies.validDate_tie y m d

end U.Props.C09
