import UtilModel.Lemmas.DateBasics
import UtilModel.Lemmas.CodeTiesDate
/-!
# C07 — Date ordering and arithmetic agree with the calendar

`Proper d` = the stored value reads back as a real calendar date from fields in the range the constructors write (what `New`, `FromTime`, the parser
and `UnmarshalBinary` produce for a year in −2147483647 … 2147483647 is proper, see `proper_new`,
`ofCivil_civil`, `unmarshalBinary_ok` with `proper_store`). `d.ordinal` is the day number of `d.Time()` in the calendar model
(`Lemmas/Calendar.lean` proves that model a monotone bijection with valid dates); that Go's `time`
package implements the same calendar is validated by correspondence, not proved.
-/
namespace U.Props.C07
open U.Date U.GoTime

/-- **trichotomy** for all stored values: exactly one of before / equal / after. -/
theorem trichotomy (d e : Date) :
    (d.before e = true ∧ d.equal e = false ∧ d.after e = false) ∨
    (d.before e = false ∧ d.equal e = true ∧ d.after e = false) ∨
    (d.before e = false ∧ d.equal e = false ∧ d.after e = true) := by
  simp only [← Bool.not_eq_true, after_eq_before, before_iff_lex, equal_iff_fields, lexLt]
  omega

/-- **the order is chronological** on real calendar dates. -/
theorem order_is_chronological (d e : Date) (hd : Proper d) (he : Proper e) :
    (d.before e = true ↔ d.ordinal < e.ordinal) ∧
    (d.equal e = true ↔ d.ordinal = e.ordinal) ∧
    (d.after e = true ↔ e.ordinal < d.ordinal) :=
  ⟨before_iff hd he, equal_iff hd he, after_iff hd he⟩

/-- **duration and day count are exact** within `time.Duration`'s range. -/
theorem sub_exact (d e : Date)
    (h : -9223372036854775808 ≤ (d.ordinal - e.ordinal) * 86400000000000 ∧
         (d.ordinal - e.ordinal) * 86400000000000 ≤ 9223372036854775807) :
    d.sub e = (d.ordinal - e.ordinal) * 86400000000000 ∧ d.daysBetween e = d.ordinal - e.ordinal := by
  have hs : d.sub e = (d.ordinal - e.ordinal) * 86400000000000 := by
    unfold Date.sub subDays nsPerDay maxDur minDur
    simp only
    rw [if_neg (by omega), if_neg (by omega)]
  refine ⟨hs, ?_⟩
  unfold Date.daysBetween hoursDiv24 nsPerHour
  rw [hs]
  generalize d.ordinal - e.ordinal = k
  have e1 : k * 86400000000000 = (k * 24) * 3600000000000 := by omega
  rw [e1, Int.mul_tdiv_cancel _ (by decide), Int.mul_tdiv_cancel _ (by decide)]

/-- outside that range the duration saturates (it never wraps) -/
theorem sub_saturates (d e : Date) :
    d.sub e = 9223372036854775807 ∨ d.sub e = -9223372036854775808 ∨
    d.sub e = (d.ordinal - e.ordinal) * 86400000000000 := by
  unfold Date.sub subDays nsPerDay maxDur minDur
  simp only
  split
  · left; rfl
  · split
    · right; left; rfl
    · right; right; rfl

/-- **Add** lands on the real calendar date whose day number is the one `time.AddDate`'s
normalisation dictates: year and month overflow are folded into the year, days simply add. -/
theorem add_spec (d : Date) (years months days : Int)
    (hr : -2147483647 ≤ (civil (ordinalNorm (d.date.1 + years) (d.date.2.1 + months) (d.date.2.2 + days))).1 ∧
          (civil (ordinalNorm (d.date.1 + years) (d.date.2.1 + months) (d.date.2.2 + days))).1 < 2147483648) :
    Proper (d.add years months days) ∧
    (d.add years months days).ordinal = ordinalNorm (d.date.1 + years) (d.date.2.1 + months) (d.date.2.2 + days) := by
  unfold Date.add new
  exact ofCivil_civil _ hr

/-- adding days only moves the day number by exactly that many days -/
theorem add_days_exact (d : Date) (hd : Proper d) (k : Int)
    (hr : -2147483647 ≤ (civil (d.ordinal + k)).1 ∧ (civil (d.ordinal + k)).1 < 2147483648) :
    Proper (d.add 0 0 k) ∧ (d.add 0 0 k).ordinal = d.ordinal + k := by
  -- `hd` is not needed: `time.Date` adds days linearly whatever the month and day are
  have e : ordinalNorm (d.date.1 + 0) (d.date.2.1 + 0) (d.date.2.2 + k) = d.ordinal + k := by
    show _ = ordinalNorm d.date.1 d.date.2.1 d.date.2.2 + k
    unfold ordinalNorm ordinal
    simp only [Int.add_zero]
    omega
  rw [← e] at hr ⊢
  exact add_spec d 0 0 k hr

/-- **AddDuration**: whole days of the duration (rounded towards the past) are added. -/
theorem addDuration_spec (d : Date) (dur : Int)
    (hr : -2147483647 ≤ (civil (d.ordinal + dur / 86400000000000)).1 ∧
          (civil (d.ordinal + dur / 86400000000000)).1 < 2147483648) :
    Proper (d.addDuration dur) ∧ (d.addDuration dur).ordinal = d.ordinal + dur / 86400000000000 := by
  unfold Date.addDuration nsPerDay
  exact ofCivil_civil _ hr

/-- **Time → date round trip**: midnight UTC of a real calendar date converts back to that date. -/
theorem time_roundtrip (d : Date) (hd : Proper d) :
    fromTime ((d.ordinal - 1) * 86400) 0 0 = d :=
  fromTime_midnight hd

/-- **FromTime in a zone**: a non-zero instant maps to the calendar day shown by that zone's clock,
i.e. the day number of ⌊(seconds + offset) / 86400⌋. -/
theorem fromTime_local (sec nsec off : Int) (hnz : ¬ (sec = 0 ∧ nsec = 0))
    (hr : -2147483647 ≤ (civil ((sec + off) / 86400 + 1)).1 ∧ (civil ((sec + off) / 86400 + 1)).1 < 2147483648) :
    Proper (fromTime sec nsec off) ∧ (fromTime sec nsec off).ordinal = (sec + off) / 86400 + 1 := by
  unfold fromTime
  rw [if_neg hnz]
  exact ofCivil_civil _ hr

/-! non-vacuity -/
example : Proper (new 2024 2 29) ∧ Proper (new 2023 12 31) := ⟨proper_new (by decide) (by decide), proper_new (by decide) (by decide)⟩
example : (new 2024 3 1).daysBetween (new 2024 2 1) = 29 := by decide +kernel
example : (new 2024 1 31).add 0 1 0 = new 2024 3 2 := by decide +kernel
example : (new 2024 3 1).addDuration (-1) = new 2024 2 29 := by decide +kernel
example : fromTime (((new 2024 3 1).ordinal - 1) * 86400 - 3600) 0 7200 = new 2024 3 1 := by decide +kernel

/-- **tie to the source**: `After`, `Before`, `Equal`, `IsZero` as translated statement by statement from
`date/date.go` on this run (`Gen.date_*`) compute exactly what the model functions above compute -/
theorem order_code_tie (d e : Date) :
    d.after e = Gen.date_After d.year d.month d.day e.year e.month e.day ∧
    d.before e = Gen.date_Before d.year d.month d.day e.year e.month e.day ∧
    d.equal e = Gen.date_Equal d.year d.month d.day e.year e.month e.day ∧
    d.isZero = Gen.date_IsZero d.year d.month d.day :=
  ⟨CodeTies.after_tie d e, CodeTies.before_tie d e, CodeTies.equal_tie d e, CodeTies.isZero_tie d⟩

end U.Props.C07
