import UtilModel.Lemmas.DateBasics
import UtilModel.Lemmas.CodeTiesDate
/-!
# C15 — Date range filter contains exactly the inclusive interval
-/
namespace U.Props.C15
open U.Date U.GoTime

/-- **construction fails exactly** when both bounds are given and the lower is after the upper —
for all stored values, no validity assumption — and then with the documented error. -/
theorem build_error_iff (fr to : Option Date) :
    (∃ e, filterFromTo fr to = .err e) ↔ ∃ f t, fr = some f ∧ to = some t ∧ f.after t = true := by
  simp only [filterFromTo_err_iff, exists_and_right, exists_eq, true_and]

theorem build_error_class (fr to : Option Date) (e : Err) (h : filterFromTo fr to = .err e) :
    e = .invalidFromOrTo :=
  ((filterFromTo_err_iff fr to e).mp h).1

/-- **membership**: a successfully built filter contains exactly the dates of the inclusive interval,
measured in day numbers, for real calendar dates. -/
theorem contains_iff (fr to : Option Date) (F : Filter) (x : Date)
    (hF : filterFromTo fr to = .ok F)
    (hfr : ∀ f, fr = some f → Proper f) (hto : ∀ t, to = some t → Proper t) (hx : Proper x) :
    F.contains x = true ↔
      (∀ f, fr = some f → f.ordinal ≤ x.ordinal) ∧ (∀ t, to = some t → x.ordinal ≤ t.ordinal) := by
  match fr, to, hF with
  | none, none, hF =>
    cases hF
    simp [Filter.contains]
  | none, some t, hF =>
    cases hF
    have ht := hto t rfl
    simp only [Filter.contains, Bool.or_eq_true, equal_iff ht hx, after_iff ht hx, reduceCtorEq, false_implies,
      implies_true, true_and, Option.some.injEq, forall_eq']
    omega
  | some f, none, hF =>
    cases hF
    have hf := hfr f rfl
    simp only [Filter.contains, Bool.or_eq_true, equal_iff hf hx, before_iff hf hx, reduceCtorEq, false_implies,
      implies_true, and_true, Option.some.injEq, forall_eq']
    omega
  | some f, some t, hF =>
    have hf := hfr f rfl
    have ht := hto t rfl
    simp only [Option.some.injEq, forall_eq']
    unfold filterFromTo at hF
    simp only at hF
    by_cases heq : f.equal t = true
    · rw [if_pos heq] at hF
      cases hF
      have := (equal_iff hf ht).mp heq
      simp only [Filter.contains, equal_iff hf hx]
      omega
    · rw [if_neg heq, Outcome.ite_err_eq_ok] at hF
      obtain ⟨hna, hF⟩ := hF
      cases hF
      rw [after_iff hf ht] at hna
      simp only [Filter.contains, Bool.or_eq_true, Bool.and_eq_true, equal_iff hf hx, equal_iff ht hx,
        before_iff hf hx, after_iff ht hx]
      omega

/-! non-vacuity -/
example : Proper (new 2024 2 29) := proper_new (by decide) (by decide)
example : filterFromTo (some (new 2024 3 1)) (some (new 2024 2 29)) = .err .invalidFromOrTo := by decide +kernel
example : (filterFromTo (some (new 2024 2 28)) (some (new 2024 3 1))).map (·.contains (new 2024 2 29)) = .ok true := by decide +kernel

/-- **tie to the source**: the five `Contains` methods of `date/filter.go`, translated on this run into Boolean
formulas over the translated `Equal`/`Before`/`After` (`Gen.date_filter*_Contains`), compute `Filter.contains` -/
theorem contains_code_tie (F : Filter) (x : Date) :
    F.contains x = match F with
      | .no => Gen.date_filterNo_Contains x.year x.month x.day
      | .date d => Gen.date_filterDate_Contains d.year d.month d.day x.year x.month x.day
      | .from f => Gen.date_filterFrom_Contains f.year f.month f.day x.year x.month x.day
      | .to t => Gen.date_filterTo_Contains t.year t.month t.day x.year x.month x.day
      | .fromTo f t => Gen.date_filterFromTo_Contains f.year f.month f.day t.year t.month t.day x.year x.month x.day :=
  CodeTies.contains_tie F x

/-- **tie to the source**: the decision structure of `FilterFromTo` as translated on this run (`nil` bounds are
`none`; the result is the Go type of the filter built with its `Date` fields, or the sentinel the error wraps)
is the model's `filterFromTo` -/
theorem build_code_tie (fr to : Option Date) :
    CodeTies.encOut CodeTies.encFilter (filterFromTo fr to)
      = Gen.date_FilterFromTo fr.isNone (fr.getD zero).year (fr.getD zero).month (fr.getD zero).day
          to.isNone (to.getD zero).year (to.getD zero).month (to.getD zero).day :=
  CodeTies.filterFromTo_tie fr to

example : CodeTies.encOut CodeTies.encFilter (filterFromTo (some (new 2024 3 1)) (some (new 2024 2 29))) = .error "ErrInvalidFromOrTo" := rfl
example : CodeTies.encOut CodeTies.encFilter (filterFromTo none (some ⟨2023, 1, 28⟩)) = .ok ("filterTo", [(2023, 1, 28)]) := rfl

end U.Props.C15
