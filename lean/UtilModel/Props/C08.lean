import UtilModel.Lemmas.SizeArith
import UtilModel.Lemmas.Outcome
/-!
# C08 — Size arithmetic is exact or refused, never wrapped

Specification (`UtilModel/Spec/SizeText.lean`): the multiplier table `mult`, `bigUnits`, the float
denotation `Denotes`, the text grammar `render`/`WellFormed`, `Representable`.
-/
namespace U.Props.C08
open U.Size

/-! ## units -/

theorem zero_units (u : Bytes) :
    u ∈ Gen.size_zeroUnits ↔ u = [] ∨ u ∈ unitNames ∨ u ∈ bigUnits :=
  ⟨zeroUnits_subset u, fun h => zeroUnits_superset u (by simpa using h)⟩

/-- the exported unit constants carry the multipliers of the property text -/
theorem unit_constants :
    mult Gen.size_Byte = some 1 ∧
    mult Gen.size_Kilobyte = some 1000 ∧ mult Gen.size_Megabyte = some (1000 ^ 2) ∧
    mult Gen.size_Gigabyte = some (1000 ^ 3) ∧ mult Gen.size_Terabyte = some (1000 ^ 4) ∧
    mult Gen.size_Petabyte = some (1000 ^ 5) ∧ mult Gen.size_Exabyte = some (1000 ^ 6) ∧
    mult Gen.size_Kibibyte = some 1024 ∧ mult Gen.size_Mebibyte = some (1024 ^ 2) ∧
    mult Gen.size_Gibibyte = some (1024 ^ 3) ∧ mult Gen.size_Tebibyte = some (1024 ^ 4) ∧
    mult Gen.size_Pebibyte = some (1024 ^ 5) ∧ mult Gen.size_Exbibyte = some (1024 ^ 6) ∧
    bigUnits = [Gen.size_Zettabyte, Gen.size_Yottabyte, Gen.size_Zebibyte, Gen.size_Yobibyte] := by
  decide

theorem unit_names (u : Bytes) : mult u ≠ none ↔ u ∈ unitNames := by
  refine ⟨fun h => ?_, mult_unitNames u⟩
  unfold mult at h
  split at h <;> first | decide | exact absurd rfl h

theorem units_are_powers (u : Bytes) : lookupUnit u = mult u := by
  rw [← find?_eq_of_rows unitToValues_rows (fun u h => unitNames_keys u ((unit_names u).mp h)) u]
  unfold lookupUnit
  cases Gen.size_unitToValues.find? (fun e => e.1 == u) <;> rfl

theorem newSize_eq (v : Nat) (u : Bytes) : newSize v u =
    if v = 0 then (if u = [] ∨ mult u ≠ none ∨ u ∈ bigUnits then .ok 0 else .err .invalidUnit)
    else if u = [] then .ok v
    else match mult u with
      | none => .err .invalidUnit
      | some m => if v * m < 2 ^ 64 then .ok (v * m) else .err .invalidValue := by
  unfold newSize
  simp only [List.contains_iff_mem, zero_units, ← unit_names, List.isEmpty_iff, units_are_powers, two64_eq,
    ge_iff_le, ← Nat.not_lt, ite_not]
  rfl

theorem newSize_exact (v : Nat) (u : Bytes) (z : Nat) :
    newSize v u = .ok z ↔
      (v = 0 ∧ z = 0 ∧ (u = [] ∨ mult u ≠ none ∨ u ∈ bigUnits)) ∨
      (0 < v ∧ ((u = [] ∧ z = v) ∨ (∃ m, mult u = some m ∧ z = v * m ∧ v * m < 2 ^ 64))) := by
  -- both sides split on `v = 0`, `u = []` and `mult u`, as the closed form does; `mult [] = none` keeps the
  -- alternatives `u = []` and `∃ m, mult u = some m` apart
  rw [newSize_eq]
  grind [mult_nil]

/-- refusals: exactly these inputs are refused, and the error class says why -/
theorem newSize_refused_iff (v : Nat) (u : Bytes) (e : Err) :
    newSize v u = .err e ↔
      ((e = .invalidUnit ∧
        ((u ≠ [] ∧ mult u = none ∧ u ∉ bigUnits) ∨ (u ∈ bigUnits ∧ v ≠ 0))) ∨
       (e = .invalidValue ∧ 0 < v ∧ ∃ m, mult u = some m ∧ 2 ^ 64 ≤ v * m)) := by
  have hbig := mult_bigUnits u
  have hnil : [] ∉ bigUnits := by decide
  rw [newSize_eq]
  grind [mult_nil]

theorem newSize_no_panic (v : Nat) (u : Bytes) : newSize v u ≠ .panic := by
  -- no leaf of the closed form is `.panic`
  rw [newSize_eq]
  grind

/-- an accepted result is below 2^64 whenever the number was -/
theorem newSize_never_wraps (v : Nat) (u : Bytes) (z : Nat) (hv : v < 2 ^ 64)
    (h : newSize v u = .ok z) : z < 2 ^ 64 := by
  rcases (newSize_exact v u z).mp h with ⟨_, rfl, _⟩ | ⟨_, ⟨_, rfl⟩ | ⟨m, _, rfl, hlt⟩⟩
  · exact Nat.pow_pos (by decide)
  · exact hv
  · exact hlt

/-! ## numeric arguments of `New[N]` -/

theorem finToNat_exact (m e : Int) (v : Nat) : finToNat m e = some v ↔ Denotes m e v := by
  unfold finToNat Denotes
  rw [two64_eq]
  -- the definition and `Denotes` split alike on `m < 0` and on the sign of `e`; they differ only for a negative
  -- exponent, where the code divides exactly and `Denotes` states the product: that is `div_exact_iff`
  have := div_exact_iff m.toNat (2 ^ (-e).toNat) v (Nat.pow_pos (by decide))
  generalize 2 ^ (-e).toNat = d at *
  grind

/-- integers: negative refused, otherwise as `newSize`; NaN and the infinities refused -/
theorem newSizeNum_int_nan_inf (u : Bytes) :
    (∀ i : Int, i < 0 → newSizeNum (.int i) u = .err .invalidValue) ∧
    (∀ i : Int, 0 ≤ i → newSizeNum (.int i) u = newSize i.toNat u) ∧
    newSizeNum .nan u = .err .invalidValue ∧
    (∀ neg, newSizeNum (.inf neg) u = .err .invalidValue) :=
  ⟨fun _ hi => if_pos hi, fun _ hi => if_neg (Int.not_lt.mpr hi), rfl, fun _ => rfl⟩

/-- a finite float that is exactly an integer `v` in range behaves like that integer -/
theorem newSizeNum_float_accepted (m e : Int) (v : Nat) (u : Bytes) (h : Denotes m e v) :
    newSizeNum (.fin m e) u = newSize v u := by
  have hf := (finToNat_exact m e v).mpr h
  simp only [newSizeNum]
  split
  · -- the zero mantissa: `finToNat` gives 0 as well
    rename_i hm
    subst hm
    have h0 : finToNat 0 e = some 0 := by
      unfold finToNat
      by_cases he : e ≥ 0 <;> simp [he, two64]
    rw [Option.some.inj (hf.symm.trans h0)]
  · rw [hf]

/-- every other finite float is refused as an invalid value: nothing is truncated or wrapped -/
theorem newSizeNum_float_refused (m e : Int) (u : Bytes) (hm : m ≠ 0) (h : ¬ ∃ v, Denotes m e v) :
    newSizeNum (.fin m e) u = .err .invalidValue := by
  simp only [newSizeNum]
  rw [if_neg hm]
  cases hf : finToNat m e with
  | none => rfl
  | some v => exact absurd ⟨v, (finToNat_exact m e v).mp hf⟩ h

/-- in particular negative, fractional and too large floats -/
theorem newSizeNum_float_cases (m e : Int) (u : Bytes) :
    (m < 0 → newSizeNum (.fin m e) u = .err .invalidValue) ∧
    (0 < m → e < 0 → m.toNat % 2 ^ (-e).toNat ≠ 0 → newSizeNum (.fin m e) u = .err .invalidValue) ∧
    (0 < m → 0 ≤ e → 2 ^ 64 ≤ m.toNat * 2 ^ e.toNat → newSizeNum (.fin m e) u = .err .invalidValue) ∧
    (0 < m → e < 0 → 2 ^ 64 * 2 ^ (-e).toNat ≤ m.toNat → newSizeNum (.fin m e) u = .err .invalidValue) := by
  refine ⟨fun hm => ?_, fun hm he hf => ?_, fun hm he hb => ?_, fun hm he hb => ?_⟩
  · apply newSizeNum_float_refused m e u (by omega)
    rintro ⟨v, h0, _⟩; omega
  · apply newSizeNum_float_refused m e u (by omega)
    rintro ⟨v, _, _, ⟨h, _⟩ | ⟨_, h⟩⟩
    · omega
    · rw [h, Nat.mul_mod_left] at hf; exact hf rfl
  · apply newSizeNum_float_refused m e u (by omega)
    rintro ⟨v, _, hv, ⟨_, h⟩ | ⟨h, _⟩⟩
    · omega
    · omega
  · apply newSizeNum_float_refused m e u (by omega)
    rintro ⟨v, _, hv, ⟨h, _⟩ | ⟨_, h⟩⟩
    · omega
    · have hd : 0 < 2 ^ (-e).toNat := Nat.pow_pos (by decide)
      have := (Nat.mul_lt_mul_right hd).mpr hv
      omega

/-! ## text -/

/-- the scanner reads exactly the digits and the unit of a rendering -/
theorem prepareNumber_render (lead : Nat) (ds : List (Nat × List Sep)) (unit : Bytes) (trail : Nat)
    (h : WellFormed ds unit) :
    prepareNumber (render lead ds unit trail) [] = (digitsOf ds, unit) := by
  unfold render
  rw [List.append_assoc, List.append_assoc, pn_spaces, pn_body _ _ _ h.2.1, pn_unit _ _ _ h.2.2]
  simp

/-- **completeness**: every rendering is read as digits × unit multiplier, or refused -/
theorem text_exact (du : Bool) (lead : Nat) (ds : List (Nat × List Sep)) (unit : Bytes) (trail : Nat)
    (h : WellFormed ds unit) :
    unmarshalText du (render lead ds unit trail) =
      if val (digitsOf ds) ≥ 2 ^ 64 then .err .numRange
      else if unit = [] then .ok (val (digitsOf ds))
      else if du then .err .unitDisabled
      else newSize (val (digitsOf ds)) unit := by
  have hne : (digitsOf ds).isEmpty = false := by simpa [digitsOf] using h.1
  unfold unmarshalText
  rw [prepareNumber_render lead ds unit trail h, two64_eq]
  simp only [hne, List.isEmpty_iff, Bool.false_eq_true, if_false]

/-- separators and surrounding spaces never change the outcome -/
theorem separators_irrelevant (du : Bool) (lead lead' trail trail' : Nat)
    (ds ds' : List (Nat × List Sep)) (unit : Bytes)
    (h : WellFormed ds unit) (h' : WellFormed ds' unit) (hd : digitsOf ds = digitsOf ds') :
    unmarshalText du (render lead ds unit trail) = unmarshalText du (render lead' ds' unit trail') := by
  rw [text_exact du lead ds unit trail h, text_exact du lead' ds' unit trail' h', hd]

/-- no digit before the unit (or nothing at all) is `.invalid` -/
theorem text_no_digit (du : Bool) (s : Bytes)
    (h : ∀ c, (s.dropWhile (· == 32)).head? = some c → ¬ Digit c) :
    unmarshalText du s = .err .invalid := by
  unfold unmarshalText
  simp only
  rw [pn_nodigit s h]
  rfl

/-- **soundness**: only renderings are accepted (indeed only renderings get past `.err .invalid`),
and the accepted value is the one `text_exact` gives -/
theorem text_sound (du : Bool) (s : Bytes) (z : Nat) (h : unmarshalText du s = .ok z) :
    ∃ lead ds unit trail, s = render lead ds unit trail ∧ WellFormed ds unit ∧
      val (digitsOf ds) < 2 ^ 64 ∧
      ((unit = [] ∧ z = val (digitsOf ds)) ∨
       (unit ≠ [] ∧ du = false ∧ newSize (val (digitsOf ds)) unit = .ok z)) := by
  -- every text is a rendering or has no digit in front, and the parser is known on both
  rcases render_or_nodigit s with ⟨lead, ds, unit, trail, rfl, hw⟩ | hn
  · rw [text_exact du lead ds unit trail hw, Outcome.ite_err_eq_ok] at h
    obtain ⟨hlt, h⟩ := h
    refine ⟨lead, ds, unit, trail, rfl, hw, Nat.not_le.mp hlt, ?_⟩
    by_cases hu : unit = []
    · rw [if_pos hu] at h
      exact .inl ⟨hu, (Outcome.ok.inj h).symm⟩
    · rw [if_neg hu, Outcome.ite_err_eq_ok] at h
      exact .inr ⟨hu, by simpa using h.1, h.2⟩
  · rw [text_no_digit du s hn] at h
    cases h

/-- every text that is not a rendering is refused as `.invalid`, and no rendering is -/
theorem text_invalid_iff (du : Bool) (s : Bytes) :
    unmarshalText du s = .err .invalid ↔
      ¬ ∃ lead ds unit trail, s = render lead ds unit trail ∧ WellFormed ds unit := by
  constructor
  · rintro h ⟨lead, ds, unit, trail, rfl, hw⟩
    rw [text_exact du lead ds unit trail hw] at h
    -- on a rendering the parser reports `numRange`, `unitDisabled` or what `newSize` does, and `newSize` never reports `.invalid`
    grind [newSize_refused_iff]
  · intro h
    exact text_no_digit du s ((render_or_nodigit s).resolve_left h)

/-! ## `Bytes[N]` -/

/-- the largest value of every integer kind -/
theorem kind_tables :
    Kind.int8.maxInt = 2 ^ 7 - 1 ∧ Kind.int16.maxInt = 2 ^ 15 - 1 ∧ Kind.int32.maxInt = 2 ^ 31 - 1 ∧
    Kind.int64.maxInt = 2 ^ 63 - 1 ∧ Kind.int.maxInt = 2 ^ 63 - 1 ∧
    Kind.uint8.maxInt = 2 ^ 8 - 1 ∧ Kind.uint16.maxInt = 2 ^ 16 - 1 ∧ Kind.uint32.maxInt = 2 ^ 32 - 1 ∧
    Kind.uint64.maxInt = 2 ^ 64 - 1 ∧ Kind.uint.maxInt = 2 ^ 64 - 1 := by decide

/-- integer kinds: success exactly when the value fits, and then the value itself -/
theorem bytes_exact_int (k : Kind) (hk : k ≠ .float32 ∧ k ≠ .float64) (s : Nat) :
    bytesAs k s = if s ≤ k.maxInt then (s, true) else (0, false) := by
  cases k <;> first | rfl | (exfalso; simp at hk)

/-- float kinds (`p` = 24 / 53 significand bits): success exactly when rounding to `p` bits does not
change the value, and then the value itself -/
theorem bytes_exact_float (k : Kind) (p : Nat)
    (hk : (k = .float32 ∧ p = 24) ∨ (k = .float64 ∧ p = 53)) (s : Nat) (hs : s < 2 ^ 64) :
    ((bytesAs k s).2 = true ↔ roundToBits p s = s) ∧
    ((bytesAs k s).2 = true → (bytesAs k s).1 = s) ∧
    ((bytesAs k s).2 = false → (bytesAs k s).1 = 0) := by
  rw [bytesAs_float k p hk s hs]
  by_cases h : roundToBits p s = s
  · rw [if_pos h]; simp [h]
  · rw [if_neg h]; simp [h]

/-- what "rounding does not change the value" means: the bits below the leading `p` are zero, i.e.
the value is `m · 2^e` with `m < 2^p` -/
theorem float_representable (p s : Nat) :
    (roundToBits p s = s ↔ (bitLen s ≤ p ∨ s % 2 ^ (bitLen s - p) = 0)) ∧
    (roundToBits p s = s ↔ Representable p s) :=
  ⟨roundToBits_fix_iff p s, (roundToBits_fix_iff p s).trans (fits_iff p s)⟩

/-- `bitLen` is the number of binary digits -/
theorem bitLen_spec (n : Nat) : n < 2 ^ bitLen n ∧ (n ≠ 0 → 2 ^ (bitLen n - 1) ≤ n) :=
  ⟨lt_two_pow_bitLen n, two_pow_bitLen_le n⟩

/-- hence: float success iff exactly representable -/
theorem bytes_float_iff_representable (k : Kind) (p : Nat)
    (hk : (k = .float32 ∧ p = 24) ∨ (k = .float64 ∧ p = 53)) (s : Nat) (hs : s < 2 ^ 64) :
    (bytesAs k s).2 = true ↔ Representable p s :=
  (bytes_exact_float k p hk s hs).1.trans (float_representable p s).2

/-! ## non-vacuity -/

-- 2^54 KiB = 2^64: refused; one less: accepted
example : newSize 18014398509481984 [75, 105, 66] = .err .invalidValue := by decide +kernel
example : newSize 18014398509481983 [75, 105, 66] = .ok 18446744073709550592 := by decide +kernel
-- ZB only with zero
example : newSize 1 [90, 66] = .err .invalidUnit := by decide +kernel
example : newSize 0 [90, 66] = .ok 0 := by decide +kernel
example : newSize 5 [120, 66] = .err .invalidUnit ∧ newSize 0 [120, 66] = .err .invalidUnit := by decide +kernel
example : newSize 3 [69, 66] = .ok 3000000000000000000 ∧ newSize 19 [69, 66] = .err .invalidValue := by decide +kernel
-- floats: 1.5 = 3·2^-1 refused, 3·2^1 = 6, -1, 2^64, NaN
example : newSizeNum (.fin 3 (-1)) [66] = .err .invalidValue ∧ newSizeNum (.fin 3 1) [107, 66] = .ok 6000 ∧
    newSizeNum (.fin (-1) 0) [] = .err .invalidValue ∧ newSizeNum (.fin 1 64) [] = .err .invalidValue ∧
    newSizeNum (.fin 4 (-2)) [] = .ok 1 ∧ newSizeNum .nan [] = .err .invalidValue ∧
    newSizeNum (.int (-5)) [] = .err .invalidValue := by decide +kernel
example : Denotes 3 1 6 := (finToNat_exact 3 1 6).mp (by decide)
example : ¬ ∃ v, Denotes 3 (-1) v := by
  rintro ⟨v, h⟩
  have h1 := (finToNat_exact 3 (-1) v).mpr h
  have h2 : finToNat 3 (-1) = none := by decide
  rw [h2] at h1
  exact absurd h1 (by simp)
-- "1_000 KiB  " = 1024000
example : unmarshalText false [49, 95, 48, 48, 48, 32, 75, 105, 66, 32, 32] = .ok 1024000 := by decide +kernel
example : [49, 95, 48, 48, 48, 32, 75, 105, 66, 32, 32] =
    render 0 [(49, [.us]), (48, []), (48, []), (48, [.sp])] [75, 105, 66] 2 := by decide +kernel
-- "10KiB  " (two trailing spaces), " 1 0\u00a0KiB"
example : unmarshalText false [49, 48, 75, 105, 66, 32, 32] = .ok 10240 := by decide +kernel
example : unmarshalText false [32, 49, 32, 48, 0xC2, 0xA0, 75, 105, 66] = .ok 10240 := by decide +kernel
example : unmarshalText true [49, 48, 75, 105, 66] = .err .unitDisabled := by decide +kernel
-- "_1", "", "KiB", "18446744073709551616"
example : unmarshalText false [95, 49] = .err .invalid ∧ unmarshalText false [] = .err .invalid ∧
    unmarshalText false [75, 105, 66] = .err .invalid := by decide +kernel
example : unmarshalText false [49,56,52,52,54,55,52,52,48,55,51,55,48,57,53,53,49,54,49,54] = .err .numRange := by
  decide +kernel
example : WellFormed [(49, [.us]), (48, [.sp])] [75, 105, 66] := by
  refine ⟨by simp, ?_, by decide, by decide, ?_, by decide, by decide⟩
  · intro p hp
    simp only [List.mem_cons, List.not_mem_nil, or_false] at hp
    rcases hp with rfl | rfl <;> decide
  · intro c hc
    simp only [List.head?_cons, Option.some.injEq] at hc
    subst hc; decide
-- Bytes[N]
example : bytesAs .float32 16777217 = (0, false) ∧ bytesAs .float32 16777216 = (16777216, true) := by decide +kernel
example : bytesAs .float64 (2 ^ 64 - 1) = (0, false) := by decide +kernel
example : bytesAs .float64 (2 ^ 64 - 2048) = (2 ^ 64 - 2048, true) := by decide +kernel
example : bytesAs .int8 127 = (127, true) ∧ bytesAs .int8 128 = (0, false) ∧
    bytesAs .uint64 (2 ^ 64 - 1) = (2 ^ 64 - 1, true) ∧ bytesAs .int64 (2 ^ 63) = (0, false) := by decide +kernel

end U.Props.C08
