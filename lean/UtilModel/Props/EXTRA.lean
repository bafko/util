import UtilModel.Model.Extra
import UtilModel.Model.Hist
import UtilModel.Lemmas.Extra
import UtilModel.Lemmas.Hex
import UtilModel.Props.C08
/-!
# EXTRA — model coverage beyond the twenty properties (DESIGN.md §9.5)

Not one of C01–C20 and not registered in MANIFEST.json: the statements below describe exported behaviour
that no property speaks about (`sem.New/Core/IsZero`, the `date` accessors and `Time/Value`, the
package-level `Formatter`/`Parser` variables under an arbitrary replacement, the numeric-kind tables of
`constraint`, the texts of the parse errors). `bin/check EXTRA` audits them and runs the correspondence of `Model/Extra.lean`.

The `…_default` theorems show that the extension is conservative: with `DefaultFormatter` /
`DefaultParser` in the variables, the new functions are the existing model functions.
-/
namespace U.Props.EXTRA
open U.Extra

/-! ## 1. sem: New, Core, IsZero, ZeroString -/

/-- `New` panics exactly when more than two extra strings are passed … -/
theorem sem_new_panics_iff (a b c : Nat) (xs : List Bytes) : Sem.new a b c xs = .panic ↔ 2 < xs.length := by
  unfold Sem.new
  match xs with
  | [] => simp
  | [_] => simp
  | [_, _] => simp
  | _ :: _ :: _ :: _ => simp

/-- … and otherwise builds exactly the fields: the first extra string is the pre-release, the second the build -/
theorem sem_new_fields (a b c : Nat) (xs : List Bytes) (h : xs.length ≤ 2) :
    Sem.new a b c xs = .ok ⟨a, b, c, xs.getD 0 [], xs.getD 1 []⟩ := by
  unfold Sem.new
  match xs, h with
  | [], _ => rfl
  | [_], _ => rfl
  | [_, _], _ => rfl
  | _ :: _ :: _ :: _, h => exact absurd h (by simp)

/-- `New` never returns an error and never validates its strings -/
theorem sem_new_no_error (a b c : Nat) (xs : List Bytes) (e : Err) : Sem.new a b c xs ≠ .err e := by
  unfold Sem.new
  split <;> simp

theorem sem_core_fields (v : Sem.Ver) :
    v.core.major = v.major ∧ v.core.minor = v.minor ∧ v.core.patch = v.patch ∧ v.core.pre = [] ∧ v.core.build = [] :=
  ⟨rfl, rfl, rfl, rfl, rfl⟩

theorem sem_core_idempotent (v : Sem.Ver) : v.core.core = v.core := rfl

/-- the core is `New` of the three numbers -/
theorem sem_core_eq_new (v : Sem.Ver) : Sem.new v.major v.minor v.patch [] = .ok v.core := rfl

/-- a version compares equal to its core iff it has no pre-release; otherwise it precedes it (the build plays no part) -/
theorem sem_compare_core (v : Sem.Ver) :
    (v.compare v.core = 0 ↔ v.pre = []) ∧ (v.compare v.core = -1 ↔ v.pre ≠ []) ∧
    (v.core.compare v = 0 ↔ v.pre = []) ∧ (v.core.compare v = 1 ↔ v.pre ≠ []) := by
  rw [Sem.compare_core, Sem.core_compare]
  by_cases h : v.pre = [] <;> simp [h]

/-- so `Latest` of a version and its core is the core, from either side, whenever they differ in precedence -/
theorem sem_latest_core (v : Sem.Ver) : v.core.latest v = v.core ∧ (v.pre ≠ [] → v.latest v.core = v.core) := by
  unfold Sem.Ver.latest
  rw [Sem.compare_core, Sem.core_compare]
  by_cases h : v.pre = [] <;> simp [h]

/-- the core is always a valid version, and `Next*` only look at the core -/
theorem sem_core_valid (v : Sem.Ver) : v.core.valid = .ok () := by
  unfold Sem.Ver.valid Sem.Ver.core
  simp

theorem sem_next_of_core (v : Sem.Ver) :
    v.core.nextMajor = v.nextMajor ∧ v.core.nextMinor = v.nextMinor ∧ v.core.nextPatch = v.nextPatch := ⟨rfl, rfl, rfl⟩

theorem sem_isZero_iff (v : Sem.Ver) : v.isZero = true ↔ v = Sem.Ver.zero := by
  obtain ⟨a, b, c, p, q⟩ := v
  simp only [Sem.Ver.isZero, Sem.Ver.zero, Bool.and_eq_true, beq_iff_eq, Sem.Ver.mk.injEq, and_assoc]

/-- the text of the zero version is the constant `ZeroString` (`ZeroStringTag` in tag form), and both parse back to it -/
theorem sem_zero_text :
    Sem.toString Sem.Ver.zero = Sem.zeroString ∧ Sem.stringTag Sem.Ver.zero = Sem.zeroStringTag ∧
    Sem.parseEntry Gen.sem_MaxInputLength .default Sem.zeroString = .ok Sem.Ver.zero ∧
    Sem.parseEntry Gen.sem_MaxInputLength .parseTag Sem.zeroStringTag = .ok Sem.Ver.zero := by decide

theorem sem_isZero_text (v : Sem.Ver) (h : v.isZero = true) : Sem.toString v = Sem.zeroString := by
  rw [(sem_isZero_iff v).1 h]; exact sem_zero_text.1

example : Sem.new 1 2 3 [[97], [98], [99]] = .panic := by decide +kernel
example : Sem.new 1 2 3 [[48, 49], [43]] = .ok ⟨1, 2, 3, [48, 49], [43]⟩ := by decide +kernel   -- "01", "+": not validated
example : (⟨1, 2, 3, [97], [98]⟩ : Sem.Ver).compare (⟨1, 2, 3, [97], [98]⟩ : Sem.Ver).core = -1 := by decide +kernel
example : (⟨0, 0, 0, [], [98]⟩ : Sem.Ver).isZero = false := by decide +kernel

/-! ## 2. date: Year, Month, Day, Date, Time, Value -/

/-- the three accessors are the components of `Date()` -/
theorem date_accessors (d : Date.Date) : (d.yearOf, d.monthOf, d.dayOf) = d.date := rfl

/-- for a date built by `New` from a real calendar date whose year fits `int32` they return what was passed -/
theorem date_accessors_new {y : Int} {m : Nat} {d : Int} (hv : GoTime.ValidDate y m d)
    (hy : -2147483648 ≤ y ∧ y < 2147483648) :
    (Date.new y m d).yearOf = y ∧ (Date.new y m d).monthOf = m ∧ ((Date.new y m d).dayOf : Int) = d := by
  have h : ((Date.new y m d).yearOf, (Date.new y m d).monthOf, (Date.new y m d).dayOf) = (y, m, d.toNat) :=
    Date.date_new_valid hv hy
  simp only [Prod.mk.injEq] at h
  obtain ⟨h1, h2, h3⟩ := h
  have := hv.2.2.1
  exact ⟨h1, h2, by omega⟩

/-- `Value()` is `Time()` with a nil error; `Time()` is a midnight: day number of the date, times 86400 s -/
theorem date_value_is_time (d : Date.Date) :
    d.value = .ok d.timeAbs ∧ d.timeAbs % 86400 = 0 ∧ d.timeAbs = (d.ordinal - 1) * 86400 :=
  ⟨rfl, Int.mul_emod_left _ _, rfl⟩

theorem date_time_new {y : Int} {m : Nat} {d : Int} (hv : GoTime.ValidDate y m d)
    (hy : -2147483647 ≤ y ∧ y < 2147483648) :
    (Date.new y m d).timeAbs = (GoTime.ordinal y m d - 1) * 86400 := by
  rw [Date.timeAbs_eq_ordinal, Date.ordinal_proper (Date.proper_new hv hy), Date.date_new_valid hv ⟨by omega, hy.2⟩]
  simp only
  rw [Int.toNat_of_nonneg (by have := hv.2.2.1; omega)]

/-- the instant reads back as the date's own year, month and day, and `FromTime(d.Time()) = d` -/
theorem date_time_round_trip {d : Date.Date} (h : Date.Proper d) :
    d.timeCivil = (d.yearOf, d.monthOf, (d.dayOf : Int)) ∧ Date.fromTime d.timeAbs 0 0 = d := by
  refine ⟨?_, Date.fromTime_midnight h⟩
  rw [Date.timeCivil_eq, Date.ordinal_proper h, GoTime.civil_ordinal h.1]
  rfl

/-- `Before` on dates is `<` on their instants -/
theorem date_before_iff_time {d e : Date.Date} (hd : Date.Proper d) (he : Date.Proper e) :
    d.before e = true ↔ d.timeAbs < e.timeAbs := by
  rw [Date.before_iff hd he, Date.timeAbs_eq_ordinal, Date.timeAbs_eq_ordinal]; omega

example : (Date.new 2024 2 29).yearOf = 2024 ∧ (Date.new 2024 2 29).monthOf = 2 ∧ (Date.new 2024 2 29).dayOf = 29 := by decide +kernel
example : (Date.new 1970 1 1).timeAbs = 62135596800 := by decide +kernel
example : (Date.new 2024 14 35).timeCivil = (2025, 3, 7) := by decide +kernel

/-! ## 3. the `Formatter` and `Parser` variables -/

/-- date: with `DefaultFormatter` in the variable every entry point is the existing model function -/
theorem date_formatter_default (d : Date.Date) (verb : Nat) :
    Date.stringWith Date.defaultFmt d = Date.toString d ∧
    Date.marshalTextWith Date.defaultFmt d = .ok (Date.marshalText d) ∧
    Date.formatVerbWith Date.defaultFmt d verb = Date.formatVerb d verb := ⟨rfl, rfl, rfl⟩

/-- date: a replacement's text is used as it is; when it errs, `String` and the verbs fall back to
    `DefaultFormatter` with the same flags, and `MarshalText` returns that error (never a panic) -/
theorem date_formatter_replaced (F : Fmt Date.Date) (d : Date.Date) (verb : Nat) :
    (∀ b, F [] d 0 = .ok b → Date.stringWith F d = b ∧ Date.marshalTextWith F d = .ok b) ∧
    (∀ t, F [] d 0 = .err t → Date.stringWith F d = Date.toString d ∧ Date.marshalTextWith F d = .err t) ∧
    (∀ b, F [] d (Date.flagsByVerb verb) = .ok b → Date.formatVerbWith F d verb = b) ∧
    (∀ t, F [] d (Date.flagsByVerb verb) = .err t → Date.formatVerbWith F d verb = Date.formatVerb d verb) ∧
    Date.marshalTextWith F d ≠ .panic :=
  ⟨fun b h => ⟨orDefault_ok F Date.defaultFmt d 0 b h, congrArg FOut.toRes h⟩,
   fun t h => ⟨orDefault_err F Date.defaultFmt d 0 t _ h rfl, congrArg FOut.toRes h⟩,
   orDefault_ok F Date.defaultFmt d _, fun t h => orDefault_err F Date.defaultFmt d _ t _ h rfl, toRes_ne_panic _⟩

theorem roman_formatter_default (df n verb : Nat) :
    Roman.stringWith Roman.defaultFmt df n = Roman.format [] n df ∧
    Roman.marshalTextWith Roman.defaultFmt df n = .ok (Roman.format [] n df) ∧
    Roman.formatVerbWith Roman.defaultFmt df n verb = Roman.format [] n (Roman.flagsByVerb verb df) := ⟨rfl, rfl, rfl⟩

/-- roman: as for date; the flags of `String` / `MarshalText` are the variable `DefaultFormat` -/
theorem roman_formatter_replaced (F : Fmt Nat) (df n verb : Nat) :
    (∀ b, F [] n df = .ok b → Roman.stringWith F df n = b ∧ Roman.marshalTextWith F df n = .ok b) ∧
    (∀ t, F [] n df = .err t → Roman.stringWith F df n = Roman.format [] n df ∧ Roman.marshalTextWith F df n = .err t) ∧
    (∀ b, F [] n (Roman.flagsByVerb verb df) = .ok b → Roman.formatVerbWith F df n verb = b) ∧
    (∀ t, F [] n (Roman.flagsByVerb verb df) = .err t →
      Roman.formatVerbWith F df n verb = Roman.format [] n (Roman.flagsByVerb verb df)) ∧
    Roman.marshalTextWith F df n ≠ .panic :=
  ⟨fun b h => ⟨orDefault_ok F Roman.defaultFmt n df b h, congrArg FOut.toRes h⟩,
   fun t h => ⟨orDefault_err F Roman.defaultFmt n df t _ h rfl, congrArg FOut.toRes h⟩,
   orDefault_ok F Roman.defaultFmt n _, fun t h => orDefault_err F Roman.defaultFmt n _ t _ h rfl, toRes_ne_panic _⟩

theorem sem_formatter_default (v : Sem.Ver) (verb : Nat) :
    Sem.stringWith Sem.defaultFmt v = Sem.toString v ∧ Sem.stringTagWith Sem.defaultFmt v = Sem.stringTag v ∧
    Sem.marshalTextWith Sem.defaultFmt v = .ok (Sem.marshalText v) ∧
    Sem.formatVerbWith Sem.defaultFmt v verb = Sem.formatVerb v verb := ⟨rfl, rfl, rfl, rfl⟩

/-- sem: `String` asks with flags 0, `StringTag` with `FormatTag`; each falls back on its own -/
theorem sem_formatter_replaced (F : Fmt Sem.Ver) (v : Sem.Ver) (verb : Nat) :
    (∀ b, F [] v 0 = .ok b → Sem.stringWith F v = b ∧ Sem.marshalTextWith F v = .ok b) ∧
    (∀ t, F [] v 0 = .err t → Sem.stringWith F v = Sem.toString v ∧ Sem.marshalTextWith F v = .err t) ∧
    (∀ b, F [] v Gen.sem_FormatTag = .ok b → Sem.stringTagWith F v = b) ∧
    (∀ t, F [] v Gen.sem_FormatTag = .err t → Sem.stringTagWith F v = Sem.stringTag v) ∧
    (∀ b, F [] v (Sem.flagsByVerb verb) = .ok b → Sem.formatVerbWith F v verb = b) ∧
    (∀ t, F [] v (Sem.flagsByVerb verb) = .err t → Sem.formatVerbWith F v verb = Sem.formatVerb v verb) ∧
    Sem.marshalTextWith F v ≠ .panic :=
  ⟨fun b h => ⟨orDefault_ok F Sem.defaultFmt v 0 b h, congrArg FOut.toRes h⟩,
   fun t h => ⟨orDefault_err F Sem.defaultFmt v 0 t _ h rfl, congrArg FOut.toRes h⟩,
   orDefault_ok F Sem.defaultFmt v _, fun t h => orDefault_err F Sem.defaultFmt v _ t _ h rfl,
   orDefault_ok F Sem.defaultFmt v _, fun t h => orDefault_err F Sem.defaultFmt v _ t _ h rfl, toRes_ne_panic _⟩

theorem uu_formatter_default (i : UU.ID) (verb : Nat) :
    UU.stringWith UU.defaultFmt i = UU.toString i ∧ UU.marshalTextWith UU.defaultFmt i = .ok (UU.marshalText i) ∧
    UU.formatVerbWith UU.defaultFmt i verb = UU.formatVerb i verb ∧ UU.urnWith UU.defaultFmt i = i.urn := ⟨rfl, rfl, rfl, rfl⟩

/-- uu: as for date; `URN()` does not depend on the variable at all -/
theorem uu_formatter_replaced (F : Fmt UU.ID) (i : UU.ID) (verb : Nat) :
    (∀ b, F [] i 0 = .ok b → UU.stringWith F i = b ∧ UU.marshalTextWith F i = .ok b) ∧
    (∀ t, F [] i 0 = .err t → UU.stringWith F i = UU.toString i ∧ UU.marshalTextWith F i = .err t) ∧
    (∀ b, F [] i (UU.flagsByVerb verb) = .ok b → UU.formatVerbWith F i verb = b) ∧
    (∀ t, F [] i (UU.flagsByVerb verb) = .err t → UU.formatVerbWith F i verb = UU.formatVerb i verb) ∧
    UU.marshalTextWith F i ≠ .panic ∧ UU.urnWith F i = i.urn :=
  ⟨fun b h => ⟨orDefault_ok F UU.defaultFmt i 0 b h, congrArg FOut.toRes h⟩,
   fun t h => ⟨orDefault_err F UU.defaultFmt i 0 t _ h rfl, congrArg FOut.toRes h⟩,
   orDefault_ok F UU.defaultFmt i _, fun t h => orDefault_err F UU.defaultFmt i _ t _ h rfl, toRes_ne_panic _, rfl⟩

theorem size_formatter_default (c : Size.MarshalCfg) (s : Nat) :
    Size.stringWith Size.defaultFmt s = Size.toString s ∧
    Size.prettyStringWith Size.defaultFmt s = .ok (Size.prettyString s) ∧
    Size.prettyHTMLWith Size.defaultFmt s = .ok (Size.prettyHTML s) ∧
    Size.marshalTextWith c Size.defaultFmt s = .ok (Size.marshalText c s) ∧
    Size.marshalJSONWith c Size.defaultFmt s = .ok (Size.marshalJSON c s) := by
  refine ⟨rfl, rfl, rfl, ?_, ?_⟩
  · unfold Size.marshalTextWith Size.marshalText; split <;> rfl
  · unfold Size.marshalJSONWith Size.marshalJSON Size.marshalTextWith Size.marshalText
    cases c.disableJSONObject <;> cases c.disableJSONString <;> cases c.disableTextUnit <;> rfl

/-- size: `String` falls back to the plain byte count, `PrettyString` / `PrettyHTML` panic exactly when the
    replacement errs -/
theorem size_formatter_replaced (F : Fmt Nat) (s : Nat) :
    (∀ b, F [] s 0 = .ok b → Size.stringWith F s = b) ∧
    (∀ t, F [] s 0 = .err t → Size.stringWith F s = Size.bytesString s) ∧
    (Size.prettyStringWith F s = .panic ↔ ∃ t, F [] s Gen.size_FormatPretty = .err t) ∧
    (Size.prettyHTMLWith F s = .panic ↔ ∃ t, F [] s (Gen.size_FormatPretty ||| Gen.size_FormatHTML) = .err t) ∧
    (∀ b, F [] s Gen.size_FormatPretty = .ok b → Size.prettyStringWith F s = .ok b) ∧
    (∀ t, Size.prettyStringWith F s ≠ .err t) := by
  have p := Size.prettyWith_spec F s Gen.size_FormatPretty
  exact ⟨fun b h => by rw [Size.stringWith, h], fun t h => by rw [Size.stringWith, h]; rfl, p.1,
    (Size.prettyWith_spec F s _).1, p.2.1, p.2.2⟩

/-- size: which marshal forms read the variable. `MarshalText` without `DisableMarshalTextUnit`, and through it
    the JSON string form; the object form, the number form and the unit-less text never do. An error of the
    replacement comes back as the error of `MarshalText` / `MarshalJSON` exactly in those cases. -/
theorem size_marshal_replaced (c : Size.MarshalCfg) (F : Fmt Nat) (s t : Nat) :
    (c.disableTextUnit = true → Size.marshalTextWith c F s = .ok (Size.bytesString s)) ∧
    (c.disableTextUnit = false → Size.marshalTextWith c F s = (F [] s 0).toRes) ∧
    (c.disableJSONObject = false → Size.marshalJSONWith c F s = .ok (Size.marshalJSONObject s)) ∧
    (c.disableJSONObject = true → c.disableJSONString = true → Size.marshalJSONWith c F s = .ok (Size.bytesString s)) ∧
    (Size.marshalJSONWith c F s = .err t ↔
      c.disableJSONObject = true ∧ c.disableJSONString = false ∧ c.disableTextUnit = false ∧ F [] s 0 = .err t) ∧
    Size.marshalTextWith c F s ≠ .panic ∧ Size.marshalJSONWith c F s ≠ .panic := by
  unfold Size.marshalJSONWith Size.marshalTextWith Size.bytesString
  cases c.disableJSONObject <;> cases c.disableJSONString <;> cases c.disableTextUnit <;>
    cases F [] s 0 <;> simp [FOut.toRes]

/-- what the string form is made of: the replacement's bytes between two quotes, not escaped -/
theorem size_marshalJSON_string_form (c : Size.MarshalCfg) (F : Fmt Nat) (s : Nat) (b : Bytes)
    (h1 : c.disableJSONObject = true) (h2 : c.disableJSONString = false) (h3 : c.disableTextUnit = false)
    (h : F [] s 0 = .ok b) : Size.marshalJSONWith c F s = .ok (34 :: b ++ [34]) := by
  unfold Size.marshalJSONWith Size.marshalTextWith
  simp [h1, h2, h3, h, FOut.toRes]

/-- `UnmarshalText` under an arbitrary parser: the receiver is assigned exactly when the parser succeeds, and is
    left as it was — whatever value the parser returned next to its error — otherwise (all five types) -/
theorem unmarshal_replaced {V} (recv : V) (o : POut V) :
    (∀ v, o = .ok v → assign recv o = (v, .ok)) ∧
    (∀ e, o = .err e → assign recv o = (recv, .err e)) ∧
    (o = .panic → assign recv o = (recv, .panic)) ∧
    ((assign recv o).2 = .ok ↔ ∃ v, o = .ok v) :=
  ⟨fun v h => h ▸ assign_ok recv v, fun e h => h ▸ assign_err recv e, fun h => h ▸ assign_panic recv,
    by cases o <;> simp [assign]⟩

/-- the rule argument each entry point passes to the variable: 0 everywhere except size, where `UnmarshalText`
    passes `DefaultRule & RuleDisableUnit` and `UnmarshalJSON` passes `DefaultRule` -/
theorem unmarshal_rule_passed (dr n : Nat) (s : Bytes) :
    (∀ (P : Prs Date.Date) r, Date.unmarshalTextWith P r s = assign r (P s 0)) ∧
    (∀ (P : Prs Nat) r, Roman.unmarshalTextWith P r s = assign r (P s 0)) ∧
    (∀ (P : Prs Sem.Ver) r, Sem.unmarshalTextWith P r s = assign r (P s 0)) ∧
    (∀ (P : Prs UU.ID) r, UU.unmarshalTextWith P r s = assign r (P s 0)) ∧
    (∀ (P : Prs Nat), Size.unmarshalTextWith P dr n s = assign n (P s (dr &&& Gen.size_RuleDisableUnit))) ∧
    (∀ (P : Prs Nat), Size.unmarshalJSONWith P dr n s = assign n (P s dr)) :=
  ⟨fun _ _ => rfl, fun _ _ => rfl, fun _ _ => rfl, fun _ _ => rfl, fun _ => rfl, fun _ => rfl⟩

/-- with `DefaultParser` in the variables, `UnmarshalText` / `UnmarshalJSON` are the calls of the receiver
    histories of C17 (`Model/Hist.lean`): same receiver afterwards, same result -/
theorem unmarshal_default_is_hist (s : Bytes) :
    (∀ r, Hist.step (.date r) (.text s) =
      (.date (Date.unmarshalTextWith Date.defaultPrs r s).1, (Date.unmarshalTextWith Date.defaultPrs r s).2.toHist)) ∧
    (∀ r, Hist.step (.roman r) (.text s) =
      (.roman (Roman.unmarshalTextWith Roman.defaultPrs r s).1, (Roman.unmarshalTextWith Roman.defaultPrs r s).2.toHist)) ∧
    (∀ r, Hist.step (.sem r) (.text s) =
      (.sem (Sem.unmarshalTextWith Sem.defaultPrs r s).1, (Sem.unmarshalTextWith Sem.defaultPrs r s).2.toHist)) ∧
    (∀ r, Hist.step (.uu r) (.text s) =
      (.uu (UU.unmarshalTextWith UU.defaultPrs r s).1, (UU.unmarshalTextWith UU.defaultPrs r s).2.toHist)) ∧
    (∀ r, Hist.step (.size r) (.text s) =
      (.size (Size.unmarshalTextWith Size.defaultPrs Gen.size_DefaultRule r s).1,
       (Size.unmarshalTextWith Size.defaultPrs Gen.size_DefaultRule r s).2.toHist)) ∧
    (∀ r, Hist.step (.size r) (.json s) =
      (.size (Size.unmarshalJSONWith Size.defaultPrs Gen.size_DefaultRule r s).1,
       (Size.unmarshalJSONWith Size.defaultPrs Gen.size_DefaultRule r s).2.toHist)) :=
  ⟨fun r => keep_eq_assign r .date _, fun r => keep_eq_assign r .roman _, fun r => keep_eq_assign r .sem _,
   fun r => keep_eq_assign r .uu _, fun r => keep_eq_assign r .size _, fun r => keep_eq_assign r .size _⟩

-- a formatter that always fails: String falls back, MarshalText fails, PrettyString panics
example : Date.stringWith (Script.fmt ⟨[88], 1, 7⟩) (Date.new 2024 2 29) = [50,48,50,52,45,48,50,45,50,57] := by decide +kernel
example : Date.marshalTextWith (Script.fmt ⟨[88], 1, 7⟩) (Date.new 2024 2 29) = .err 7 := by decide +kernel
example : Size.prettyStringWith (Script.fmt ⟨[88], 1, 7⟩) 1024 = .panic := by decide +kernel
example : Size.stringWith (Script.fmt ⟨[88], 1, 7⟩) 1024 = [49, 48, 50, 52] := by decide +kernel
-- a formatter that fails only for flags 0: String falls back but StringTag uses it
example : Sem.stringWith (Script.fmt ⟨[88], 2, 7⟩) ⟨1, 2, 3, [], []⟩ = [49,46,50,46,51] ∧
    Sem.stringTagWith (Script.fmt ⟨[88], 2, 7⟩) ⟨1, 2, 3, [], []⟩ = [88, 49] := by decide +kernel
example : Size.marshalJSONWith ⟨false, false, true⟩ (Script.fmt ⟨[34], 0, 7⟩) 5 = .ok [34, 34, 48, 34] := by decide +kernel
example : Roman.unmarshalTextWith (PScript.prsNat ⟨500, 1, 9⟩) 7 [73] = (7, .err (.custom 9)) := by decide +kernel
example : Size.unmarshalTextWith (PScript.prsNat ⟨300, 3, 9⟩) 7 5 [49] = (5, .err (.custom 9)) ∧
    Size.unmarshalTextWith (PScript.prsNat ⟨300, 3, 9⟩) 6 5 [49] = (301, .ok) := by decide +kernel

/-! ## 4. constraint: the numeric kinds -/
open Constraint in
/-- `Max` of an integer kind is the bound `size.Bytes[N]` accepts up to (`Kind.maxInt` of the size model, C08) -/
theorem constraint_max_is_size_bound (k : Size.Kind) (hk : isFloat k = false) : max k = .int k.maxInt := by
  cases k <;> first | rfl | (exact absurd hk (by decide))

open Constraint in
/-- … stated on `Bytes[N]` itself: it succeeds exactly for sizes up to `Max[N]()` -/
theorem constraint_bytes_bound (k : Size.Kind) (hk : isFloat k = false) (s : Nat) :
    (Size.bytesAs k s).2 = true ↔ NumVal.le (.int s) (max k) = true := by
  rw [C08.bytes_exact_int k ⟨(by rintro rfl; cases hk), (by rintro rfl; cases hk)⟩, constraint_max_is_size_bound k hk,
    NumVal.le_int, decide_eq_true_eq, Int.ofNat_le]
  split <;> simp [*]

open Constraint in
/-- `Min ≤ 0 ≤ Max`, `0 < SmallestNonzero ≤ Max`, signed kinds are exactly those with a negative minimum -/
theorem constraint_order (k : Size.Kind) :
    (min k).le .zero = true ∧ NumVal.zero.le (max k) = true ∧
    NumVal.zero.lt (smallestNonzero k) = true ∧ (smallestNonzero k).le (max k) = true ∧
    (isSigned k = true ↔ (min k).lt .zero = true) := by
  -- every comparison but `SmallestNonzero ≤ Max` is with zero, where only the sign of the mantissa counts
  simp only [NumVal.lt, NumVal.zero_le, NumVal.le_zero]
  refine ⟨?_, ?_, ?_, NumVal.le_of_mant_exp ?_ ?_ ?_, ?_⟩
  all_goals cases k <;> decide

open Constraint in
/-- integer kinds: two's-complement bounds of the kind's width; `SizeBits = 8 · SizeBytes` for every kind -/
theorem constraint_int_bounds (k : Size.Kind) (hk : isFloat k = false) :
    sizeBits k = 8 * sizeBytes k ∧ smallestNonzero k = .int 1 ∧
    max k = .int (if isSigned k then 2 ^ (sizeBits k - 1) - 1 else 2 ^ sizeBits k - 1) ∧
    min k = .int (if isSigned k then -(2 ^ (sizeBits k - 1)) else 0) := by
  cases k <;> first | (exact absurd hk (by decide)) | decide

open Constraint in
/-- float kinds: `Max = (2^p − 1)·2^(emax − p + 1)`, `Min = −Max`, `SmallestNonzero = 2^(emin − p + 1)` with
    (p, emin, emax) = (24, −126, 127) and (53, −1022, 1023); the mantissas have exactly the `p` bits that
    `size.Bytes[float…]` rounds to (C08) -/
theorem constraint_float_bounds :
    Constraint.max Size.Kind.float32 = NumVal.flt (2 ^ 24 - 1) (127 - 24 + 1) ∧
    Constraint.min Size.Kind.float32 = NumVal.flt (-(2 ^ 24 - 1)) (127 - 24 + 1) ∧
    smallestNonzero Size.Kind.float32 = NumVal.flt 1 (-126 - 24 + 1) ∧
    Constraint.max Size.Kind.float64 = NumVal.flt (2 ^ 53 - 1) (1023 - 53 + 1) ∧
    Constraint.min Size.Kind.float64 = NumVal.flt (-(2 ^ 53 - 1)) (1023 - 53 + 1) ∧
    smallestNonzero Size.Kind.float64 = NumVal.flt 1 (-1022 - 53 + 1) ∧
    sizeBits Size.Kind.float32 = 32 ∧ sizeBits Size.Kind.float64 = 64 ∧
    Size.bitLen (2 ^ 24 - 1) = 24 ∧ Size.bitLen (2 ^ 53 - 1) = 53 := by decide

example : Constraint.max .int16 = .int 32767 ∧ Constraint.min .int16 = .int (-32768) := by decide +kernel
set_option exponentiation.threshold 2100 in
example : Constraint.NumVal.lt (Constraint.smallestNonzero .float64) (Constraint.smallestNonzero .float32) = true := by decide +kernel
set_option exponentiation.threshold 2100 in
example : Constraint.NumVal.lt (Constraint.max .uint64) (Constraint.max .float32) = true := by decide +kernel

/-! ## 5. error messages (`errors.go` of every package) -/
section ErrMsg
open U.ErrMsg

/-- The error of an over-long input is a function of the two lengths only: two inputs of the same length get
the same message, whatever their bytes (C18's "the message does not reproduce the input", in the model). -/
theorem errmsg_too_long_ignores_content (p : Pkg) (fn s t : Bytes) (max : Nat) (h : s.length = t.length) :
    tooLongMessage p fn s max = tooLongMessage p fn t max := by
  unfold tooLongMessage; rw [h]

/-- … and it is exactly `<pkg>.<Func>: input too long: <len> > <max>`. -/
theorem errmsg_too_long_text (p : Pkg) (fn s : Bytes) (max : Nat) :
    tooLongMessage p fn s max = p.name ++ 46 :: fn ++ sep ++ tooLongText s.length max := rfl

/-- an empty input is never quoted; a non-empty one appears as `"…"` between the function name and the cause -/
theorem errmsg_empty_input (p : Pkg) (fn : Bytes) (e : Option Bytes) :
    message p fn [] e = p.name ++ 46 :: fn ++ sep ++ (match e with | some t => t | none => p.fallback) := rfl

theorem errmsg_quoted_input (p : Pkg) (fn : Bytes) (c : Nat) (s : Bytes) (e : Option Bytes) :
    message p fn (c :: s) e =
      p.name ++ 46 :: fn ++ sep ++ p.lead ++ quote (c :: s) ++ sep ++ (match e with | some t => t | none => p.fallback) := rfl

/-- … and ends with the text of the wrapped error, or with the package's fallback text when there is none -/
theorem errmsg_suffix (p : Pkg) (fn input : Bytes) (e : Option Bytes) :
    ∃ front, message p fn input e = front ++ (match e with | some t => t | none => p.fallback) := by
  cases input with
  | nil => exact ⟨_, errmsg_empty_input p fn e⟩
  | cons c s => exact ⟨_, errmsg_quoted_input p fn c s e⟩

/-- The same through `UnmarshalText`, which wraps the parser's error: the whole text is
`<pkg>.<Type>.UnmarshalText: <pkg>.<Func>: input too long: <len> > <max>` and depends on the input's length only. -/
theorem errmsg_unmarshalText_too_long (p : Pkg) (fn s t : Bytes) (max : Nat) (h : s.length = t.length) :
    unmarshalTextTooLong p fn s max = unmarshalTextTooLong p fn t max ∧
    unmarshalTextTooLong p fn s max =
      unmarshalTextWrap p (p.name ++ 46 :: fn ++ sep ++ tooLongText s.length max) :=
  ⟨congrArg (unmarshalTextWrap p) (errmsg_too_long_ignores_content p fn s t max h), rfl⟩

/-- every message starts with `<pkg>.<Func>: ` -/
theorem errmsg_prefix (p : Pkg) (fn input : Bytes) (e : Option Bytes) :
    ∃ rest, message p fn input e = p.name ++ 46 :: fn ++ sep ++ rest := by
  cases input with
  | nil => exact ⟨_, errmsg_empty_input p fn e⟩
  | cons c s => exact ⟨_, by rw [errmsg_quoted_input]; simp only [List.append_assoc]; rfl⟩

private theorem quoteByte_printable (c : Nat) (hc : c < 128) : ∀ x ∈ quoteByte c, 32 ≤ x ∧ x ≤ 126 := by
  intro x hx
  have := hexDigit_lower (c / 16) (by omega)
  have := hexDigit_lower (c % 16) (by omega)
  rcases quoteByte_cases c with ⟨e, _, _, h⟩ | h | ⟨_, _, h⟩ <;> rw [h] at hx <;>
    simp only [hex2, List.mem_cons, List.not_mem_nil, or_false] at hx <;> omega

/-- Quoting an ASCII input yields printable ASCII only: no control byte of a rejected input reaches the message. -/
theorem quote_printable (s : Bytes) (h : quoteModelled s = true) : ∀ x ∈ quote s, 32 ≤ x ∧ x ≤ 126 := by
  intro x hx
  simp only [quote, quoteBody_eq_flatMap, List.mem_cons, List.mem_append, List.mem_flatMap, List.not_mem_nil,
    or_false] at hx
  rcases hx with rfl | ⟨c, hc, hx⟩ | rfl
  · decide
  · exact quoteByte_printable c (by simpa using List.all_eq_true.mp h c hc) x hx
  · decide

/-- a quoted byte is one byte, a two-byte escape or `\xhh` -/
theorem quoteByte_length (c : Nat) : (quoteByte c).length = 1 ∨ (quoteByte c).length = 2 ∨ (quoteByte c).length = 4 := by
  rcases quoteByte_cases c with ⟨e, _, _, h⟩ | h | ⟨_, _, h⟩ <;> rw [h]
  · exact .inr (.inl rfl)
  · exact .inr (.inr rfl)
  · exact .inl rfl

/-- the quoted text is at least as long as the input plus the two quotation marks and at most four times as long -/
theorem quote_length (s : Bytes) : s.length + 2 ≤ (quote s).length ∧ (quote s).length ≤ 4 * s.length + 2 := by
  have body : ∀ s : Bytes, s.length ≤ (quoteBody s).length ∧ (quoteBody s).length ≤ 4 * s.length := by
    intro s
    induction s with
    | nil => simp [quoteBody]
    | cons c s ih =>
      have := quoteByte_length c
      simp [quoteBody]; omega
  have := body s
  simp [quote]; omega

private theorem hexDigitUpper_range (n : Nat) (h : n < 16) :
    (48 ≤ hexDigitUpper n ∧ hexDigitUpper n ≤ 57) ∨ (65 ≤ hexDigitUpper n ∧ hexDigitUpper n ≤ 70) := by
  unfold hexDigitUpper; split <;> omega

private theorem hexDigitUpper_inj (a b : Nat) (ha : a < 16) (hb : b < 16) (h : hexDigitUpper a = hexDigitUpper b) : a = b := by
  unfold hexDigitUpper at h; split at h <;> split at h <;> omega

/-- `uu.InvalidDigitError`: the text always ends with the code point `U+00XX` of the offending byte (followed by `)` when
the byte is also shown as a character), and different bytes get different code points. -/
theorem invalidDigit_names_code_point (c : Nat) :
    ∃ front, invalidDigitText c = front ++ codePoint c ++ (if isGraphicByte c then [41] else []) := by
  unfold invalidDigitText
  cases isGraphicByte c
  · exact ⟨_, (List.append_nil _).symm⟩
  · exact ⟨_, rfl⟩

theorem codePoint_injective (c d : Nat) (hc : c < 256) (hd : d < 256) (h : codePoint c = codePoint d) : c = d := by
  simp [codePoint] at h
  have h1 := hexDigitUpper_inj (c / 16) (d / 16) (by omega) (by omega) h.1
  have h2 := hexDigitUpper_inj (c % 16) (d % 16) (by omega) (by omega) h.2
  omega

private theorem codePoint_printable (c : Nat) (hc : c < 256) : ∀ x ∈ codePoint c, 32 ≤ x ∧ x ≤ 126 := by
  have r1 := hexDigitUpper_range (c / 16) (by omega)
  have r2 := hexDigitUpper_range (c % 16) (by omega)
  simp only [codePoint, List.forall_mem_cons, List.not_mem_nil, false_imp_iff, implies_true, and_true]
  omega

/-- for an ASCII byte the whole text is printable ASCII: a control byte is named by its code point only -/
theorem invalidDigit_ascii_printable (c : Nat) (hc : c < 128) : ∀ x ∈ invalidDigitText c, 32 ≤ x ∧ x ≤ 126 := by
  have cp := codePoint_printable c (by omega)
  unfold invalidDigitText
  split
  · rename_i g
    have hg : 32 ≤ c ∧ c ≤ 126 := by simp [isGraphicByte] at g; omega
    simp only [List.forall_mem_append, utf8Latin1, if_pos hc]
    exact ⟨⟨⟨⟨by decide, by simpa using hg⟩, by decide⟩, cp⟩, by decide⟩
  · simp only [List.forall_mem_append]
    exact ⟨by decide, cp⟩

example : invalidDigitText 103 = [105, 110, 118, 97, 108, 105, 100, 32, 100, 105, 103, 105, 116, 32, 39, 103, 39, 32, 40, 85, 43, 48, 48, 54, 55, 41] := by decide +kernel
example : invalidDigitText 173 = [105, 110, 118, 97, 108, 105, 100, 32, 100, 105, 103, 105, 116, 32, 85, 43, 48, 48, 65, 68] := by decide +kernel
example : quote [97, 34, 10, 1] = [34, 97, 92, 34, 92, 110, 92, 120, 48, 49, 34] := by decide +kernel
example : message .size [80] [49, 32, 120] none =
    [115, 105, 122, 101, 46, 80, 58, 32, 112, 97, 114, 115, 105, 110, 103, 32, 34, 49, 32, 120, 34, 58, 32,
     117, 110, 97, 98, 108, 101, 32, 116, 111, 32, 112, 97, 114, 115, 101] := by decide +kernel
example : tooLongMessage .date [80] (List.replicate 11 120) 10 = tooLongMessage .date [80] (List.replicate 11 0) 10 := rfl

end ErrMsg

end U.Props.EXTRA
