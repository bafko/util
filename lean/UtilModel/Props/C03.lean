import UtilModel.Lemmas.SemText
/-!
# C03 — SemVer text is accepted exactly per the 2.0.0 grammar and round-trips

`Sem.unmarshalText maxLen allowVersion allowTag s` models `unmarshalText(funcName, input, f)` with
`MaxInputLength = maxLen`, `allowVersion = (f & formVersion != 0)`, `allowTag = (f & formTag != 0)`;
`Sem.parseEntry` are the public functions. The grammar is `Spec/SemVerBNF.lean`:
`Parts t ma mi pa pre? build?` says that `t` is `ma.mi.pa[-pre][+build]` with the parts in the
published BNF classes, `SemVer t` that such parts exist, `body s` is `s` without a leading `v`.

Formulation of the number bound: through the BNF witnesses — "there are parts of `body s` whose three
number texts have `val < 2^64`". Because the decomposition of a text is unique (`parts_unique`) this is
the same as "the parts have …", and `fields_of_parts` gives the result for every decomposition.

The "zero result" of a refusal is not a model statement: an `Outcome` carries either a value or an
error class, and the Go `Ver{}` returned next to the error is compared by the correspondence run.
-/
namespace U.Props.C03
open U.Sem

/-! ## the scanner is the grammar -/

/-- **`shape` returns exactly the parts of a grammar text** (an absent optional group as the empty text) -/
theorem shape_iff (s ma mi pa pre build : Bytes) :
    shape s = some (ma, mi, pa, pre, build) ↔
      ∃ pre? build?, Parts s ma mi pa pre? build? ∧ pre = pre?.getD [] ∧ build = build?.getD [] := by
  constructor
  · exact fun h => ⟨_, _, shape_sound h, (getD_optOf _).symm, (getD_optOf _).symm⟩
  · rintro ⟨pre?, build?, hp, rfl, rfl⟩
    exact shape_complete hp

/-- … and nothing exactly outside the grammar -/
theorem shape_none_iff (s : Bytes) : shape s = none ↔ ¬ SemVer s := Sem.shape_none_iff s

/-- a text of the grammar has exactly one decomposition -/
theorem parts_unique (s ma mi pa ma' mi' pa' : Bytes) (pre? build? pre?' build?' : Option Bytes)
    (h : Parts s ma mi pa pre? build?) (h' : Parts s ma' mi' pa' pre?' build?') :
    ma = ma' ∧ mi = mi' ∧ pa = pa' ∧ pre? = pre?' ∧ build? = build?' := Sem.parts_unique h h'

/-- the optional parts are never empty texts; the identifier lists are the model's validity checks -/
theorem pre_build_iff (p b : Bytes) :
    (validPre p = true ↔ DotList PreId p) ∧ (validBuild b = true ↔ DotList BuildId b) ∧
    (DotList PreId p → p ≠ []) ∧ (DotList BuildId b → b ≠ []) :=
  ⟨validPre_iff p, validBuild_iff b, fun h => (dotList_build (dotList_pre_build h)).1, fun h => (dotList_build h).1⟩

/-- the joining function of the specification is the library's `intercalate` -/
theorem joinDots_intercalate (ids : List Bytes) : joinDots ids = List.intercalate [46] ids :=
  joinDots_eq_intercalate ids

/-! ## acceptance -/

/-- **acceptance is exactly**: non-empty, within the limit, the form (`v` or not) allowed, the body a
text of the grammar, and its three numbers below 2^64. -/
theorem accepts_iff (maxLen : Nat) (allowVersion allowTag : Bool) (s : Bytes) :
    (∃ v, unmarshalText maxLen allowVersion allowTag s = .ok v) ↔
      s ≠ [] ∧ (maxLen = 0 ∨ s.length ≤ maxLen) ∧
      (if s.head? = some 118 then allowTag else allowVersion) = true ∧
      ∃ ma mi pa pre? build?, Parts (body s) ma mi pa pre? build? ∧
        val ma < two64 ∧ val mi < two64 ∧ val pa < two64 := by
  constructor
  · rintro ⟨v, h⟩
    obtain ⟨h0, hl, hf, hp, h1, h2, h3⟩ := (unmarshalText_ok_iff ..).mp h
    exact ⟨h0, hl, hf, _, _, _, _, _, hp, by rwa [val_dec], by rwa [val_dec], by rwa [val_dec]⟩
  · rintro ⟨h0, hl, hf, ma, mi, pa, pre?, build?, hp, h1, h2, h3⟩
    rw [unmarshalText_of_guards h0 hl hf, parseBody_parts hp]
    exact ⟨_, checked_ok_iff.mpr ⟨h1, h2, h3, rfl⟩⟩

/-- in particular nothing outside the grammar is accepted -/
theorem accepted_semver (maxLen : Nat) (allowVersion allowTag : Bool) (s : Bytes) (v : Ver)
    (h : unmarshalText maxLen allowVersion allowTag s = .ok v) : SemVer (body s) :=
  ⟨_, _, _, _, _, unmarshalText_parts h⟩

/-- **fields**: an accepted text yields the decimal values of its three number texts and the literal
pre-release and build texts (empty when absent) … -/
theorem fields (maxLen : Nat) (allowVersion allowTag : Bool) (s : Bytes) (v : Ver)
    (h : unmarshalText maxLen allowVersion allowTag s = .ok v) :
    ∃ ma mi pa pre? build?, Parts (body s) ma mi pa pre? build? ∧
      v.major = val ma ∧ v.minor = val mi ∧ v.patch = val pa ∧
      v.pre = pre?.getD [] ∧ v.build = build?.getD [] ∧
      v.major < two64 ∧ v.minor < two64 ∧ v.patch < two64 := by
  obtain ⟨_, _, _, hp, hr⟩ := (unmarshalText_ok_iff ..).mp h
  exact ⟨_, _, _, _, _, hp, (val_dec _).symm, (val_dec _).symm, (val_dec _).symm, (getD_optOf _).symm,
    (getD_optOf _).symm, hr⟩

/-- … whichever way the body is read as a text of the grammar -/
theorem fields_of_parts (maxLen : Nat) (allowVersion allowTag : Bool) (s : Bytes) (v : Ver)
    (ma mi pa : Bytes) (pre? build? : Option Bytes)
    (h : unmarshalText maxLen allowVersion allowTag s = .ok v) (hp : Parts (body s) ma mi pa pre? build?) :
    v = ⟨val ma, val mi, val pa, pre?.getD [], build?.getD []⟩ := by
  obtain ⟨rfl, rfl, rfl, rfl, rfl⟩ := Sem.parts_unique hp (unmarshalText_parts h)
  rw [val_dec, val_dec, val_dec, getD_optOf, getD_optOf]

/-- **reproduce**: formatting the result (as a tag exactly when the input had the `v`) gives the input
back byte for byte. -/
theorem reproduce (maxLen : Nat) (allowVersion allowTag : Bool) (s : Bytes) (v : Ver)
    (h : unmarshalText maxLen allowVersion allowTag s = .ok v) :
    format [] v (decide (s.head? = some 118)) = s := by
  have hp := unmarshalText_parts h
  -- the text equation of `Parts` for the parts of `v` is `format_eq`
  rw [format_tag, (format_eq v).trans hp.2.2.2.2.2.symm]
  simp only [decide_eq_true_eq]
  exact tag_body s

/-- the decimal writer and reader are inverse on numeric identifiers / on numbers -/
theorem dec_val_numId (t : Bytes) (n : Nat) : (NumId t → dec (val t) = t) ∧ NumId (dec n) ∧ val (dec n) = n :=
  ⟨dec_val, numId_dec n, val_dec n⟩

/-! ## refusals, in the order the code checks them -/

/-- empty input is invalid … -/
theorem empty_invalid (maxLen : Nat) (allowVersion allowTag : Bool) :
    unmarshalText maxLen allowVersion allowTag [] = .err .invalid := rfl

/-- … over-long input (limit non-zero) is refused with the dedicated error before anything else … -/
theorem too_long (maxLen : Nat) (allowVersion allowTag : Bool) (s : Bytes) (h0 : maxLen ≠ 0)
    (h : s.length > maxLen) : unmarshalText maxLen allowVersion allowTag s = .err .tooLong := by
  rw [unmarshalText_eq, if_neg (by intro e; subst e; simp at h), if_pos ⟨h0, h⟩]

/-- … a `v` prefix when tags are not allowed … -/
theorem tag_not_allowed (maxLen : Nat) (allowVersion : Bool) (s : Bytes)
    (hl : maxLen = 0 ∨ s.length ≤ maxLen) (hv : s.head? = some 118) :
    unmarshalText maxLen allowVersion false s = .err .tagNotAllowed := by
  rw [unmarshalText_eq, if_neg (by intro e; subst e; simp at hv), if_neg (by omega), if_pos (if_pos hv), if_pos hv]

/-- … no `v` prefix when only tags are allowed … -/
theorem expected_tag (maxLen : Nat) (allowTag : Bool) (s : Bytes) (h0 : s ≠ [])
    (hl : maxLen = 0 ∨ s.length ≤ maxLen) (hv : s.head? ≠ some 118) :
    unmarshalText maxLen false allowTag s = .err .expectedTag := by
  rw [unmarshalText_eq, if_neg h0, if_neg (by omega), if_pos (if_neg hv), if_neg hv]

/-- … **a grammar text whose first too-large number is the major / minor / patch one** is refused with
exactly that component's error … -/
theorem overflow_typed (maxLen : Nat) (allowVersion allowTag : Bool) (s ma mi pa : Bytes)
    (pre? build? : Option Bytes) (h0 : s ≠ []) (hl : maxLen = 0 ∨ s.length ≤ maxLen)
    (hf : (if s.head? = some 118 then allowTag else allowVersion) = true)
    (hp : Parts (body s) ma mi pa pre? build?) :
    (two64 ≤ val ma → unmarshalText maxLen allowVersion allowTag s = .err .invalidMajor) ∧
    (val ma < two64 → two64 ≤ val mi → unmarshalText maxLen allowVersion allowTag s = .err .invalidMinor) ∧
    (val ma < two64 → val mi < two64 → two64 ≤ val pa →
      unmarshalText maxLen allowVersion allowTag s = .err .invalidPatch) := by
  rw [unmarshalText_of_guards h0 hl hf, parseBody_parts hp]
  unfold checked
  refine ⟨fun h => ?_, fun h1 h => ?_, fun h1 h2 h => ?_⟩
  · rw [if_pos h]
  · rw [if_neg (by omega), if_pos h]
  · rw [if_neg (by omega), if_neg (by omega), if_pos h]

/-- … and **the plain "invalid" error means exactly**: empty, or (within the limit, form allowed) a body
outside the grammar. So every refusal not named above is this one. -/
theorem invalid_iff (maxLen : Nat) (allowVersion allowTag : Bool) (s : Bytes) :
    unmarshalText maxLen allowVersion allowTag s = .err .invalid ↔
      s = [] ∨ ((maxLen = 0 ∨ s.length ≤ maxLen) ∧
        (if s.head? = some 118 then allowTag else allowVersion) = true ∧ ¬ SemVer (body s)) := by
  by_cases h0 : s = []
  · subst h0
    exact iff_of_true rfl (.inl rfl)
  · rw [unmarshalText_eq, if_neg h0, Outcome.ite_err_eq_iff, Outcome.ite_err_eq_iff, parseBody_invalid_iff,
      Bool.not_eq_false, or_iff_right h0]
    · exact and_congr_left' (by omega)
    · split <;> nofun
    · nofun

/-- every refusal carries one of the seven documented classes -/
theorem error_classes (maxLen : Nat) (allowVersion allowTag : Bool) (s : Bytes) (e : Err)
    (h : unmarshalText maxLen allowVersion allowTag s = .err e) :
    e = .invalid ∨ e = .tooLong ∨ e = .tagNotAllowed ∨ e = .expectedTag ∨
    e = .invalidMajor ∨ e = .invalidMinor ∨ e = .invalidPatch :=
  ((unmarshalText_ends maxLen allowVersion allowTag s).of_err h).imp_right (Or.imp_left And.left)

/-- the parser never panics -/
theorem never_panic (maxLen : Nat) (allowVersion allowTag : Bool) (s : Bytes) :
    unmarshalText maxLen allowVersion allowTag s ≠ .panic :=
  (unmarshalText_ends maxLen allowVersion allowTag s).ne_panic

/-! ## the public functions -/

/-- **entry points**: `Parse`, `ParseVersion`, `ParseTag`, `DefaultParser(_, 0)` and
`DefaultParser(_, RuleDisableTag)` are `unmarshalText` with (version, tag) allowed =
(✓,✓), (✓,✗), (✗,✓), (✓,✓), (✓,✗): the `v` is optional, forbidden, required, optional, forbidden. -/
theorem entry_points (maxLen : Nat) (s : Bytes) :
    parseEntry maxLen .parse s = unmarshalText maxLen true true s ∧
    parseEntry maxLen .parseVersion s = unmarshalText maxLen true false s ∧
    parseEntry maxLen .parseTag s = unmarshalText maxLen false true s ∧
    parseEntry maxLen .default s = unmarshalText maxLen true true s ∧
    parseEntry maxLen .defaultNoTag s = unmarshalText maxLen true false s :=
  ⟨rfl, rfl, rfl, rfl, rfl⟩

/-- the constants of the Go source behind those pairs: the prefix byte is `v`; the two form bits are
different single bits, so `formVersion|formTag`, `formVersion`, `formTag` test as the pairs above; the
rule bit `RuleDisableTag` is what removes `formTag` in `DefaultParser`; the default limit is 1024. -/
theorem entry_constants :
    Gen.sem_tagPrefix = 118 ∧
    ((Gen.sem_formVersion ||| Gen.sem_formTag) &&& Gen.sem_formVersion ≠ 0) ∧
    ((Gen.sem_formVersion ||| Gen.sem_formTag) &&& Gen.sem_formTag ≠ 0) ∧
    (Gen.sem_formVersion &&& Gen.sem_formVersion ≠ 0) ∧ (Gen.sem_formVersion &&& Gen.sem_formTag = 0) ∧
    (Gen.sem_formTag &&& Gen.sem_formVersion = 0) ∧ (Gen.sem_formTag &&& Gen.sem_formTag ≠ 0) ∧
    (0 &&& Gen.sem_RuleDisableTag = 0) ∧ (Gen.sem_RuleDisableTag &&& Gen.sem_RuleDisableTag ≠ 0) ∧
    Gen.sem_MaxInputLength = 1024 := by
  decide

/-! ## validity is parsing back -/

/-- **a version value is valid exactly when its formatted text parses back to it** (as a plain version;
numbers in the `uint64` range; the text within the input limit — see the remark below). -/
theorem valid_iff_roundtrip (maxLen : Nat) (v : Ver)
    (hr : v.major < two64 ∧ v.minor < two64 ∧ v.patch < two64)
    (hl : maxLen = 0 ∨ (format [] v false).length ≤ maxLen) :
    v.valid = .ok () ↔ unmarshalText maxLen true false (format [] v false) = .ok v := by
  obtain ⟨hne, hhead⟩ := format_head v
  rw [unmarshalText_ok_iff, body, if_neg hhead, if_neg hhead, parts_format_iff]
  exact ⟨fun h => ⟨hne, hl, rfl, h, hr⟩, fun h => h.2.2.2.1⟩

/-! Remark (the length hypothesis is forced): `Ver.valid` does not look at `MaxInputLength`, the
parser does. A valid value whose text is longer than the limit — e.g. a 2,000-byte build string under
the default limit 1024 — does not parse back; it is refused as too long: -/
example (v : Ver) (h : (format [] v false).length > Gen.sem_MaxInputLength) :
    unmarshalText Gen.sem_MaxInputLength true false (format [] v false) = .err .tooLong :=
  too_long _ _ _ _ (by decide) h
/-- the same with a limit of 8 bytes: `1.2.3+abcd` is valid and does not parse back -/
example : (⟨1, 2, 3, [], [97, 98, 99, 100]⟩ : Ver).valid = .ok () ∧
    unmarshalText 8 true false (format [] ⟨1, 2, 3, [], [97, 98, 99, 100]⟩ false) = .err .tooLong := by decide +kernel
/-- `Ver.valid` ignores empty fields and `format` omits them: `1.2.3` -/
example : (⟨1, 2, 3, [], []⟩ : Ver).valid = .ok () ∧ format [] ⟨1, 2, 3, [], []⟩ false = [49, 46, 50, 46, 51] := by
  decide +kernel
/-- an invalid value does not parse back: pre-release `01` -/
example : (⟨1, 0, 0, [48, 49], []⟩ : Ver).valid = .err .invalidPreRelease ∧
    unmarshalText 0 true false (format [] ⟨1, 0, 0, [48, 49], []⟩ false) = .err .invalid := by decide +kernel

/-! ## non-vacuity -/

-- `v1.2.3-a.1+b` under `Parse`
example : parseEntry 1024 .parse [118, 49, 46, 50, 46, 51, 45, 97, 46, 49, 43, 98] =
    .ok ⟨1, 2, 3, [97, 46, 49], [98]⟩ := by decide +kernel
-- the same text is a tag: refused by `ParseVersion`, accepted by `ParseTag`; `1.2.3` the other way round
example : parseEntry 1024 .parseVersion [118, 49, 46, 50, 46, 51] = .err .tagNotAllowed := by decide +kernel
example : parseEntry 1024 .parseTag [118, 49, 46, 50, 46, 51] = .ok ⟨1, 2, 3, [], []⟩ := by decide +kernel
example : parseEntry 1024 .parseTag [49, 46, 50, 46, 51] = .err .expectedTag := by decide +kernel
-- `1.02.3`, `1.0.0-01` rejected; `1.0.0-0a` accepted
example : parseEntry 1024 .parse [49, 46, 48, 50, 46, 51] = .err .invalid := by decide +kernel
example : parseEntry 1024 .parse [49, 46, 48, 46, 48, 45, 48, 49] = .err .invalid := by decide +kernel
example : parseEntry 1024 .parse [49, 46, 48, 46, 48, 45, 48, 97] = .ok ⟨1, 0, 0, [48, 97], []⟩ := by decide +kernel
-- `18446744073709551616.0.0` ⇒ invalidMajor, `18446744073709551615.0.0` accepted
example : parseEntry 1024 .parse
    [49, 56, 52, 52, 54, 55, 52, 52, 48, 55, 51, 55, 48, 57, 53, 53, 49, 54, 49, 54, 46, 48, 46, 48] =
    .err .invalidMajor := by decide +kernel
example : parseEntry 1024 .parse
    [49, 56, 52, 52, 54, 55, 52, 52, 48, 55, 51, 55, 48, 57, 53, 53, 49, 54, 49, 53, 46, 48, 46, 48] =
    .ok ⟨18446744073709551615, 0, 0, [], []⟩ := by decide +kernel
example : parseEntry 1024 .parse
    [48, 46, 49, 56, 52, 52, 54, 55, 52, 52, 48, 55, 51, 55, 48, 57, 53, 53, 49, 54, 49, 54, 46, 48] =
    .err .invalidMinor := by decide +kernel
-- the specification itself is inhabited and refuses: `1.2.3-a.1+b` is in the grammar, `1.02.3` is not
example : Parts [49, 46, 50, 46, 51, 45, 97, 46, 49, 43, 98] [49] [50] [51] (some [97, 46, 49]) (some [98]) := by
  have h := (checks_iff [49] [50] [51] (some [97, 46, 49]) (some [98])).mp (by decide +kernel)
  exact ⟨h.1, h.2.1, h.2.2.1, h.2.2.2.1, h.2.2.2.2, rfl⟩
example : ¬ SemVer [49, 46, 48, 50, 46, 51] := (shape_none_iff _).mp (by decide +kernel)
-- reproduce on the first example
example : format [] ⟨1, 2, 3, [97, 46, 49], [98]⟩ true = [118, 49, 46, 50, 46, 51, 45, 97, 46, 49, 43, 98] := by
  decide +kernel

/-- **secondary text paths**: `MarshalText`, `String`, `%s`, `%v` give the plain text, `StringTag` and `%t` the
tag form (flag constant and verb switch generated from the source) -/
theorem paths_agree (v : Ver) :
    marshalText v = format [] v false ∧ Sem.toString v = format [] v false ∧ stringTag v = format [] v true ∧
    formatVerb v 115 = format [] v false ∧ formatVerb v 118 = format [] v false ∧ formatVerb v 116 = format [] v true :=
  ⟨rfl, rfl, rfl, rfl, rfl, rfl⟩

end U.Props.C03
