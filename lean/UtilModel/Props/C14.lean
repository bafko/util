import UtilModel.Lemmas.SemOrder
import UtilModel.Lemmas.CodeTiesSem
/-!
# C14 — Version comparison is a coherent order and next/latest respect it

All order laws below hold for **arbitrary** versions — any numbers, any byte strings in the
pre-release and build fields (valid or not, including the identifiers C06 excludes).
-/
namespace U.Props.C14
open U.Sem

/-- **range**: comparison returns -1, 0 or 1 -/
theorem range (v w : Ver) : v.compare w = -1 ∨ v.compare w = 0 ∨ v.compare w = 1 := Ver.compare_range v w

/-- **reflexive** -/
theorem refl (v : Ver) : v.compare v = 0 := Swapped.self_eq_zero Ver.compare_swapped v

/-- **antisymmetric**: swapping the arguments negates the result -/
theorem antisymm (v w : Ver) : v.compare w = - w.compare v := Ver.compare_antisymm v w

/-- **build metadata is ignored** -/
theorem build_irrelevant (v w : Ver) (b1 b2 : Bytes) :
    ({ v with build := b1 } : Ver).compare { w with build := b2 } = v.compare w := rfl

/-- equal core and equal pre-release compare as 0, whatever the build metadata -/
theorem equal_core_pre_zero (v w : Ver) (h : v.major = w.major ∧ v.minor = w.minor ∧ v.patch = w.patch ∧ v.pre = w.pre) :
    v.compare w = 0 := by
  rw [Ver.compare_same_numbers h.1 h.2.1 h.2.2.1, h.2.2.2, comparePre_refl]

/-- **latest-of-two** returns one of its arguments and never the lower one -/
theorem latest_choice (v w : Ver) :
    (v.latest w = v ∨ v.latest w = w) ∧ 0 ≤ (v.latest w).compare v ∧ 0 ≤ (v.latest w).compare w := by
  have hr := range v w
  have ha := antisymm w v
  have hv := refl v
  have hw := refl w
  unfold Ver.latest
  split
  · -- `v` is lower, the result is `w`: against `v` it is +1 by antisymmetry, against itself 0
    exact ⟨Or.inr rfl, by omega, by omega⟩
  · -- the result is `v`: against itself 0; against `w` not −1, so 0 or 1 by the range
    exact ⟨Or.inl rfl, by omega, by omega⟩

/-- **string helpers**: a value exactly when both texts parse for that helper, and then the value is
what comparing the parsed versions gives; otherwise the first text's error, else the second's. -/
theorem helpers_compare (maxLen : Nat) (e : Entry) (a b : Bytes) :
    compareStr maxLen e a b =
      match parseEntry maxLen e a, parseEntry maxLen e b with
      | .ok av, .ok bv => .ok (av.compare bv)
      | .ok _, .err x => .err x
      | .ok _, .panic => .panic
      | .err x, _ => .err x
      | .panic, _ => .panic := by
  unfold compareStr Outcome.bind
  cases parseEntry maxLen e a <;> cases parseEntry maxLen e b <;> rfl

theorem helpers_latest (maxLen : Nat) (e : Entry) (a b : Bytes) :
    latestStr maxLen e a b =
      match parseEntry maxLen e a, parseEntry maxLen e b with
      | .ok av, .ok bv => .ok (av.latest bv)
      | .ok _, .err x => .err x
      | .ok _, .panic => .panic
      | .err x, _ => .err x
      | .panic, _ => .panic := by
  unfold latestStr Outcome.bind
  cases parseEntry maxLen e a <;> cases parseEntry maxLen e b <;> rfl

/-- `bits.Add64(x, 1, 0)` carries exactly at `x = 2^64 - 1` -/
private theorem carry_iff {x : Nat} (h : x < two64) : x + 1 ≥ two64 ↔ x = two64 - 1 := by
  unfold two64 at *; omega

/-- **next-major/minor/patch**: a plain release strictly above the receiver; panic exactly at 2^64-1 -/
theorem next_major (v : Ver) (h : v.major < two64) :
    (v.major = two64 - 1 → v.nextMajor = .panic) ∧
    (v.major ≠ two64 - 1 → ∃ n, v.nextMajor = .ok n ∧ n.pre = [] ∧ n.build = [] ∧ n.minor = 0 ∧ n.patch = 0 ∧
      n.major = v.major + 1 ∧ n.compare v = 1) := by
  simp only [Ver.nextMajor, carry_iff h]
  refine ⟨fun he => if_pos he, fun hne => ⟨_, if_neg hne, rfl, rfl, rfl, rfl, rfl, ?_⟩⟩
  rw [Ver.compare_eq_lex, cmpNat_of_gt (Nat.lt_succ_self _)]; rfl

theorem next_minor (v : Ver) (h : v.minor < two64) :
    (v.minor = two64 - 1 → v.nextMinor = .panic) ∧
    (v.minor ≠ two64 - 1 → ∃ n, v.nextMinor = .ok n ∧ n.pre = [] ∧ n.build = [] ∧ n.major = v.major ∧ n.patch = 0 ∧
      n.minor = v.minor + 1 ∧ n.compare v = 1) := by
  simp only [Ver.nextMinor, carry_iff h]
  refine ⟨fun he => if_pos he, fun hne => ⟨_, if_neg hne, rfl, rfl, rfl, rfl, rfl, ?_⟩⟩
  rw [Ver.compare_eq_lex, cmpNat_self, lex_zero, cmpNat_of_gt (Nat.lt_succ_self _)]; rfl

theorem next_patch (v : Ver) (h : v.patch < two64) :
    (v.patch = two64 - 1 → v.nextPatch = .panic) ∧
    (v.patch ≠ two64 - 1 → ∃ n, v.nextPatch = .ok n ∧ n.pre = [] ∧ n.build = [] ∧ n.major = v.major ∧ n.minor = v.minor ∧
      n.patch = v.patch + 1 ∧ n.compare v = 1) := by
  simp only [Ver.nextPatch, carry_iff h]
  refine ⟨fun he => if_pos he, fun hne => ⟨_, if_neg hne, rfl, rfl, rfl, rfl, rfl, ?_⟩⟩
  rw [Ver.compare_eq_lex, cmpNat_self, lex_zero, cmpNat_self, lex_zero, cmpNat_of_gt (Nat.lt_succ_self _)]; rfl

/-! non-vacuity (including the identifiers C06 leaves out) -/
example : comparePre [97, 48, 49] [97, 49] = 0 := by decide +kernel            -- a01 vs a1
example : comparePre [97, 49] [97, 48, 50] = -1 := by decide +kernel           -- a1 < a02
example : (⟨1, 0, 0, [114, 99, 49, 48], [120]⟩ : Ver).compare ⟨1, 0, 0, [], []⟩ = -1 := by decide +kernel
example : (⟨18446744073709551615, 0, 0, [], []⟩ : Ver).nextMajor = .panic := by decide +kernel

/-- **tie to the source**: `Ver.Compare` as translated from `sem/version.go` on this run is the model's `compare` -/
theorem compare_code_tie (v w : Ver) :
    v.compare w = Gen.sem_Compare comparePre v.major v.minor v.patch v.pre w.major w.minor w.patch w.pre :=
  CodeTies.compare_tie v w

/-- **tie to the source**: `NextMajor/NextMinor/NextPatch` as translated from `sem/version.go` on this run
(`bits.Add64(x, 1, 0)` is the 65-bit sum split at 2^64, `panic` is `none`) are the model's, for 64-bit components -/
theorem next_code_tie (v : Ver) :
    (v.major < two64 → CodeTies.verOpt v.nextMajor = Gen.sem_NextMajor v.major v.minor v.patch v.pre v.build) ∧
    (v.minor < two64 → CodeTies.verOpt v.nextMinor = Gen.sem_NextMinor v.major v.minor v.patch v.pre v.build) ∧
    (v.patch < two64 → CodeTies.verOpt v.nextPatch = Gen.sem_NextPatch v.major v.minor v.patch v.pre v.build) :=
  CodeTies.next_tie v

/-- **tie to the source**: `Ver.Latest` (through the translated `Compare`), `Ver.IsZero` and `Ver.Core` as translated
on this run are the model's `latest`, `isZero`, `core` (versions as tuples of their five fields) -/
theorem latest_code_tie (v w : Ver) :
    CodeTies.verTuple (v.latest w)
      = Gen.sem_Latest comparePre v.major v.minor v.patch v.pre v.build w.major w.minor w.patch w.pre w.build ∧
    v.isZero = Gen.sem_IsZero v.major v.minor v.patch v.pre v.build ∧
    CodeTies.verTuple v.core = Gen.sem_Core v.major v.minor v.patch v.pre v.build :=
  ⟨CodeTies.latest_tie v w, CodeTies.isZero_ver_tie v, CodeTies.core_tie v⟩

example : CodeTies.verOpt (⟨18446744073709551615, 0, 0, [], []⟩ : Ver).nextMajor = none := by decide +kernel
example : CodeTies.verOpt (⟨1, 2, 3, [97], [98]⟩ : Ver).nextMinor = some (1, 3, 0, [], []) := by decide +kernel
example : (⟨0, 0, 0, [], [98]⟩ : Ver).isZero = false ∧ Ver.zero.isZero = true := by decide +kernel

end U.Props.C14
