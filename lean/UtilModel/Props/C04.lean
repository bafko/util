import UtilModel.Lemmas.SizeRoundTrip
/-!
# C04 — A size survives every marshal form and configuration

For every 64-bit size `s` and each of the eight `MarshalCfg` values (text unit on/off, JSON string
form on/off, JSON object form on/off) the output of the model of `MarshalText` / `MarshalJSON`
parses back to `s` through the model of `DefaultParser` under the default rule — `UnmarshalText` masks
the rule with `ruleUnmarshalTextMask` (plain text parser, units allowed), `UnmarshalJSON` uses
`DefaultRule` (JSON string and object forms enabled; a bare JSON number is always accepted) — for
every input limit that the output fits (0 = none; every output is at most 43 bytes, so the default
limit 128 never interferes) and every key limit of at least two keys (0 = none; default 16).
`String()` (`format [] s 0`) and `PrettyString()` (`format [] s FormatPretty`, digits grouped with
spaces) parse back as text as well. The JSON decoder is the model of `encoding/json`'s streaming
`Token`/`More` (`Model/GoJson.lean`). Nesting inside `encoding/json` containers (struct fields,
slices, map values) is exercised on the implementation only (harness).
-/
namespace U.Props.C04
open U.Size

/-- the rules the two unmarshal entry points use by default -/
theorem default_rules :
    Rule.ofNat (Gen.size_DefaultRule &&& Gen.size_ruleUnmarshalTextMask) = ⟨false, false, false, false⟩ ∧
    Rule.ofNat Gen.size_DefaultRule = ⟨false, true, true, false⟩ ∧ two64 = 2 ^ 64 :=
  ⟨ruleText, ruleJSON, two64_eq⟩

/-- **short outputs**: text forms have at most 23 bytes (20 digits + `EiB`), JSON forms and the pretty
rendering at most 43 — below the default input limit -/
theorem marshal_length_le (cfg : MarshalCfg) (s : Nat) (hs : s < two64) :
    (marshalText cfg s).length ≤ 23 ∧ (marshalJSON cfg s).length ≤ 43 ∧
    (Size.format [] s 0).length ≤ 23 ∧ (Size.format [] s Gen.size_FormatPretty).length ≤ 43 ∧
    43 ≤ Gen.size_MaxInputLength :=
  ⟨marshalText_length cfg s hs, marshalJSON_length cfg s hs, format_length_le s 0 hs,
   format_length_le s Gen.size_FormatPretty hs, by decide⟩

/-- **text round trip**, any limit the text fits -/
theorem text_roundtrip (maxLen maxKeys : Nat) (cfg : MarshalCfg) (s : Nat) (hs : s < two64)
    (hlen : maxLen = 0 ∨ (marshalText cfg s).length ≤ maxLen) :
    Size.parse maxLen maxKeys (Rule.ofNat (Gen.size_DefaultRule &&& Gen.size_ruleUnmarshalTextMask))
      (marshalText cfg s) = .ok s := by
  rw [parse_ruleText _ _ _ hlen]
  exact unmarshalText_marshalText cfg s hs

/-- **JSON round trip** (object, string and number form), any limit the text fits, any key limit ≥ 2 -/
theorem json_roundtrip (maxLen maxKeys : Nat) (cfg : MarshalCfg) (s : Nat) (hs : s < two64)
    (hlen : maxLen = 0 ∨ (marshalJSON cfg s).length ≤ maxLen) (hkeys : maxKeys = 0 ∨ 2 ≤ maxKeys) :
    Size.parse maxLen maxKeys (Rule.ofNat Gen.size_DefaultRule) (marshalJSON cfg s) = .ok s := by
  rw [parse_ruleJSON _ _ _ hlen]
  exact unmarshalJSON_marshalJSON maxKeys hkeys _ rfl rfl cfg s hs

/-- **`String()` round trip** -/
theorem string_roundtrip (maxLen maxKeys : Nat) (s : Nat) (hs : s < two64)
    (hlen : maxLen = 0 ∨ (Size.format [] s 0).length ≤ maxLen) :
    Size.parse maxLen maxKeys (Rule.ofNat (Gen.size_DefaultRule &&& Gen.size_ruleUnmarshalTextMask))
      (Size.format [] s 0) = .ok s := by
  rw [parse_ruleText _ _ _ hlen]
  exact unmarshalText_format s 0 hs (by decide)

/-- **`PrettyString()` round trip**: the digit-group spaces and the space before the unit are skipped -/
theorem pretty_roundtrip (maxLen maxKeys : Nat) (s : Nat) (hs : s < two64)
    (hlen : maxLen = 0 ∨ (Size.format [] s Gen.size_FormatPretty).length ≤ maxLen) :
    Size.parse maxLen maxKeys (Rule.ofNat (Gen.size_DefaultRule &&& Gen.size_ruleUnmarshalTextMask))
      (Size.format [] s Gen.size_FormatPretty) = .ok s := by
  rw [parse_ruleText _ _ _ hlen]
  exact unmarshalText_format s _ hs (by decide)

/-- **the default configuration**: limits `MaxInputLength` and `MaxObjectKeys`, all four renderings -/
theorem default_roundtrip (cfg : MarshalCfg) (s : Nat) (hs : s < two64) :
    let rt := Rule.ofNat (Gen.size_DefaultRule &&& Gen.size_ruleUnmarshalTextMask)
    let p := Size.parse Gen.size_MaxInputLength Gen.size_MaxObjectKeys
    p rt (marshalText cfg s) = .ok s ∧ p (Rule.ofNat Gen.size_DefaultRule) (marshalJSON cfg s) = .ok s ∧
    p rt (Size.format [] s 0) = .ok s ∧ p rt (Size.format [] s Gen.size_FormatPretty) = .ok s := by
  obtain ⟨h1, h2, h3, h4, h5⟩ := marshal_length_le cfg s hs
  exact ⟨text_roundtrip _ _ cfg s hs (by omega), json_roundtrip _ _ cfg s hs (by omega) (by decide),
    string_roundtrip _ _ s hs (by omega), pretty_roundtrip _ _ s hs (by omega)⟩

/-! non-vacuity: concrete outputs and their parses -/
example : marshalJSON ⟨false, false, false⟩ (1536 * 1024) =
    [123,34,118,97,108,117,101,34,58,49,53,51,54,44,34,117,110,105,116,34,58,34,75,105,66,34,125] := by decide +kernel  -- {"value":1536,"unit":"KiB"}
example : marshalJSON ⟨false, false, true⟩ 1024 = [34, 49, 75, 105, 66, 34] := by decide +kernel     -- "1KiB"
example : marshalJSON ⟨true, false, true⟩ 1024 = [34, 49, 48, 50, 52, 34] := by decide +kernel       -- "1024"
example : marshalJSON ⟨false, true, true⟩ 1024 = [49, 48, 50, 52] := by decide +kernel               -- 1024
example : marshalText ⟨false, false, false⟩ (2 ^ 60) = [49, 69, 105, 66] := by decide +kernel        -- 1EiB
example : Size.format [] 1023 1 = [49, 32, 48, 50, 51, 32, 66] := by decide +kernel                  -- "1 023 B"
example : Size.parse 128 16 (Rule.ofNat 6) (marshalJSON ⟨false, false, false⟩ (1536 * 1024)) = .ok (1536 * 1024) := by decide +kernel
example : Size.parse 128 16 (Rule.ofNat 6) (marshalJSON ⟨false, false, false⟩ 0) = .ok 0 := by decide +kernel
example : Size.parse 128 16 (Rule.ofNat 6) (marshalJSON ⟨false, false, true⟩ 1023) = .ok 1023 := by decide +kernel
example : Size.parse 128 16 (Rule.ofNat 6) (marshalJSON ⟨true, true, true⟩ 1) = .ok 1 := by decide +kernel
example : Size.parse 128 16 (Rule.ofNat 0) (marshalText ⟨false, false, false⟩ (2 ^ 60)) = .ok (2 ^ 60) := by decide +kernel
example : Size.parse 128 16 (Rule.ofNat 0) (marshalText ⟨true, false, false⟩ 1024) = .ok 1024 := by decide +kernel
example : Size.parse 128 16 (Rule.ofNat 0) (Size.format [] 1023 1) = .ok 1023 := by decide +kernel
example : Size.parse 128 16 (Rule.ofNat 6) (marshalJSON ⟨false, false, false⟩ (2 ^ 64 - 1)) = .ok (2 ^ 64 - 1) := by decide +kernel
example : Size.parse 128 16 (Rule.ofNat 6) (marshalJSON ⟨false, true, true⟩ (2 ^ 64 - 1)) = .ok (2 ^ 64 - 1) := by decide +kernel
example : Size.parse 128 16 (Rule.ofNat 0) (Size.format [] (2 ^ 64 - 1) 1) = .ok (2 ^ 64 - 1) := by decide +kernel
example : (Size.format [] (2 ^ 64 - 1) 1).length = 28 ∧ (marshalJSON ⟨false, false, false⟩ (2 ^ 64 - 1)).length = 41 := by decide +kernel
/-- the limit hypotheses matter: a limit of 3 rejects `1KiB`, one key is not enough for the object form -/
example : Size.parse 3 16 (Rule.ofNat 0) (marshalText ⟨false, false, false⟩ 1024) = .err .tooLong := by decide +kernel
example : Size.parse 128 1 (Rule.ofNat 6) (marshalJSON ⟨false, false, false⟩ 1024) = .err .tooBig := by decide +kernel

end U.Props.C04
