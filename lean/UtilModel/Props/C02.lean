import UtilModel.Lemmas.Roman
import UtilModel.Props.C10
/-!
# C02 — Roman numerals round-trip under every format flag combination

`Roman.format buf n f` models `DefaultFormatter(buf, n, f)` (after fix F2), `Roman.flagsByVerb verb df` models
`formatByVerb(verb)` with `DefaultFormat = df`; `MarshalText` and `String` are `Roman.format [] n df`, the
`fmt` verbs are `Roman.format [] n (Roman.flagsByVerb verb df)` (the driver's `roman.paths` operation).
`Roman.hasFlag f bit` is Go's `f&bit != 0`; `f` ranges over all naturals, i.e. over every flag combination
including undefined bits. `Roman.parse` / `Roman.valid` as in C10.

The specification (`digitForm`, `canonical`, `caseOf`) is stated here; it refers to the model only for
`Roman.hasFlag` and to `Gen.Facts` only for the flag constants.
-/
namespace U.Props.C02

/-- canonical form of the decimal digit `d` written with `one`, `five`, `ten`: the subtractive form of 4 and 9
    unless the matching long-form flag is set, otherwise `five^(d/5) one^(d%5)` -/
def digitForm (one five ten : Nat) (long4 long9 : Bool) (d : Nat) : Bytes :=
  if d = 4 ∧ long4 = false then [one, five]
  else if d = 9 ∧ long9 = false then [one, ten]
  else List.replicate (d / 5) five ++ List.replicate (d % 5) one

def hundredsForm (f d : Nat) : Bytes :=
  digitForm 67 68 77 (Roman.hasFlag f Gen.roman_FormatLong400) (Roman.hasFlag f Gen.roman_FormatLong900) d
def tensForm (f d : Nat) : Bytes :=
  digitForm 88 76 67 (Roman.hasFlag f Gen.roman_FormatLong40) (Roman.hasFlag f Gen.roman_FormatLong90) d
def unitsForm (f d : Nat) : Bytes :=
  digitForm 73 86 88 (Roman.hasFlag f Gen.roman_FormatLong4) (Roman.hasFlag f Gen.roman_FormatLong9) d

/-- the canonical upper-case numeral of `n`: thousands as repeated `M`, then one form per decimal digit -/
def canonical (n f : Nat) : Bytes :=
  List.replicate (n / 1000) 77 ++ hundredsForm f (n % 1000 / 100) ++ tensForm f (n % 100 / 10) ++ unitsForm f (n % 10)

/-- the lower-case flag changes letter case only -/
def caseOf (f : Nat) (s : Bytes) : Bytes :=
  if Roman.hasFlag f Gen.roman_FormatLowerCase = true then s.map toLowerAscii else s

-- the helper lemmas use the same definitions under other names
example : @digitForm = @Roman.dform := rfl
example : @canonical = @Roman.canon := rfl

/-- **tables**: the three digit tables with their long-form overrides are the canonical digit forms -/
theorem tables_are_forms (d f : Nat) (hd : d ≤ 9) :
    Roman.toHundreds d f = hundredsForm f d ∧ Roman.toTens d f = tensForm f d ∧ Roman.toUnits d f = unitsForm f d :=
  ⟨Roman.toGroup_dform (by decide) d f hd, Roman.toGroup_dform (by decide) d f hd,
    Roman.toGroup_dform (by decide) d f hd⟩

/-- every canonical digit form is one of the parser's forms (C10) and is worth its digit -/
theorem digit_forms (d f : Nat) (hd : d ≤ 9) :
    (hundredsForm f d ∈ C10.forms 67 68 77 ∧ C10.formValue 67 68 77 (hundredsForm f d) = d) ∧
    (tensForm f d ∈ C10.forms 88 76 67 ∧ C10.formValue 88 76 67 (tensForm f d) = d) ∧
    (unitsForm f d ∈ C10.forms 73 86 88 ∧ C10.formValue 73 86 88 (unitsForm f d) = d) := by
  -- one table per group: ten digits, the forms of 4 and of 9 long or short
  have hH : ∀ d ≤ 9, ∀ b4 b9 : Bool, digitForm 67 68 77 b4 b9 d ∈ C10.forms 67 68 77 ∧
      C10.formValue 67 68 77 (digitForm 67 68 77 b4 b9 d) = d := by decide
  have hT : ∀ d ≤ 9, ∀ b4 b9 : Bool, digitForm 88 76 67 b4 b9 d ∈ C10.forms 88 76 67 ∧
      C10.formValue 88 76 67 (digitForm 88 76 67 b4 b9 d) = d := by decide
  have hU : ∀ d ≤ 9, ∀ b4 b9 : Bool, digitForm 73 86 88 b4 b9 d ∈ C10.forms 73 86 88 ∧
      C10.formValue 73 86 88 (digitForm 73 86 88 b4 b9 d) = d := by decide
  exact ⟨hH d hd _ _, hT d hd _ _, hU d hd _ _⟩

/-- **the numeral is canonical**, for every number and every flag combination … -/
theorem format_canonical (n f : Nat) : Roman.format [] n f = caseOf f (canonical n f) := by
  have e : Roman.numeral n f = canonical n f := by
    rw [Roman.numeral, (tables_are_forms _ f (by omega)).1, (tables_are_forms _ f (by omega)).2.1,
      (tables_are_forms _ f (by omega)).2.2]
    rfl
  unfold Roman.format caseOf
  by_cases h0 : n = 0
  · subst h0
    have : canonical 0 f = [] := rfl
    simp [this]
  · rw [if_neg h0, e]
    simp only [List.nil_append]
    rw [show (canonical n f).map Roman.lowerByte = (canonical n f).map toLowerAscii from (Roman.canon_case n f).1]

/-- … and its upper-casing does not depend on the lower-case flag -/
theorem format_upper (n f : Nat) : C10.up (Roman.format [] n f) = canonical n f := by
  rw [format_canonical, caseOf]
  split
  · exact (Roman.canon_case n f).2.1
  · exact (Roman.canon_case n f).2.2

/-- the numeral of `n` is a numeral in the sense of C10, with `n` as value … -/
theorem format_numeral (n f : Nat) :
    C10.Numeral (Roman.format [] n f) (n / 1000) (hundredsForm f (n % 1000 / 100)) (tensForm f (n % 100 / 10))
      (unitsForm f (n % 10)) ∧
    C10.value (n / 1000) (hundredsForm f (n % 1000 / 100)) (tensForm f (n % 100 / 10)) (unitsForm f (n % 10)) = n := by
  obtain ⟨⟨hm, hv⟩, -, -⟩ := digit_forms (n % 1000 / 100) f (by omega)
  obtain ⟨-, ⟨tm, tv⟩, -⟩ := digit_forms (n % 100 / 10) f (by omega)
  obtain ⟨-, -, um, uv⟩ := digit_forms (n % 10) f (by omega)
  refine ⟨⟨format_upper n f, hm, tm, um⟩, ?_⟩
  rw [C10.value, hv, tv, uv]
  omega

/-- … so zero, and only zero, is the empty text -/
theorem format_nil_iff (n f : Nat) : Roman.format [] n f = [] ↔ n = 0 := by
  constructor
  · intro h
    -- an empty numeral has no thousands and three empty forms, which are worth nothing
    obtain ⟨⟨hs, -⟩, hv⟩ := format_numeral n f
    rw [h] at hs
    simp only [C10.up, List.map_nil, List.nil_eq, List.append_eq_nil_iff, List.replicate_eq_nil_iff] at hs
    obtain ⟨⟨⟨hk, hh⟩, ht⟩, hu⟩ := hs
    rw [hh, ht, hu, hk] at hv
    exact hv.symm
  · rintro rfl
    rfl

/-- **round trip**: for every `uint64` number and every flag combination, if the numeral fits within the limit
(and zero is not forbidden by the rule) it parses back to the number and passes the validity check -/
theorem parse_format (maxLen : Nat) (de : Bool) (n f : Nat) (hn : n < two64)
    (hlen : maxLen = 0 ∨ (Roman.format [] n f).length ≤ maxLen) (hz : n = 0 → de = false) :
    Roman.parse maxLen de (Roman.format [] n f) = .ok n ∧ Roman.valid maxLen de (Roman.format [] n f) = .ok () := by
  by_cases h0 : n = 0
  · subst h0
    rw [hz rfl]
    exact ⟨rfl, rfl⟩
  · obtain ⟨hN, hv⟩ := format_numeral n f
    have hne := mt (format_nil_iff n f).mp h0
    exact ⟨(C10.accepts_iff maxLen de _ n).mpr ⟨hlen, .inr ⟨hne, _, _, _, _, hN, by rw [hv, Nat.mod_eq_of_lt hn]⟩⟩,
      (C10.valid_iff maxLen de _).mpr ⟨hlen, .inr ⟨hne, _, _, _, _, hN⟩⟩⟩

/-- with the rule that forbids empty input, the numeral of zero is refused -/
theorem parse_format_zero_disabled (maxLen f : Nat) :
    Roman.parse maxLen true (Roman.format [] 0 f) = .err .invalid ∧
      Roman.valid maxLen true (Roman.format [] 0 f) = .err .invalid :=
  ⟨rfl, rfl⟩

/-- **paths**: the flags chosen by the `fmt` verbs `R r L l`; every other verb (`s`, `v`, …), like
`MarshalText` and `String`, uses `DefaultFormat` -/
theorem paths_agree (df : Nat) :
    Roman.flagsByVerb 82 df = 0 ∧
    Roman.flagsByVerb 114 df = Gen.roman_FormatLowerCase ∧
    Roman.flagsByVerb 76 df = Gen.roman_FormatLong ∧
    Roman.flagsByVerb 108 df = Gen.roman_FormatLong ||| Gen.roman_FormatLowerCase ∧
    ∀ verb, verb ∉ [82, 114, 76, 108] → Roman.flagsByVerb verb df = df := by
  refine ⟨rfl, rfl, rfl, rfl, ?_⟩
  intro verb hv
  simp only [List.mem_cons, List.not_mem_nil, or_false, not_or] at hv
  obtain ⟨h1, h2, h3, h4⟩ := hv
  have e : ∀ k : Nat, verb ≠ k → (k == verb) = false := fun k h => by
    simp only [beq_eq_false_iff_ne, ne_eq]; exact fun e => h e.symm
  simp only [Roman.flagsByVerb, Gen.roman_verbs, Gen.roman_verbDefault, List.find?, e _ h1, e _ h2, e _ h3, e _ h4,
    Option.getD_none]

/-- so every formatting path round-trips -/
theorem paths_round_trip (maxLen : Nat) (de : Bool) (n df verb : Nat) (hn : n < two64)
    (hlen : maxLen = 0 ∨ (Roman.format [] n (Roman.flagsByVerb verb df)).length ≤ maxLen) (hz : n = 0 → de = false) :
    Roman.parse maxLen de (Roman.format [] n (Roman.flagsByVerb verb df)) = .ok n :=
  (parse_format maxLen de n _ hn hlen hz).1

/-! non-vacuity, and the defect that fix F1 removed -/
example : Roman.format [] 1994 0 = [77,67,77,88,67,73,86] := by decide +kernel                          -- MCMXCIV
example : Roman.parse 128 false [77,67,77,88,67,73,86] = .ok 1994 := by decide +kernel
example : Roman.format [] 4 Gen.roman_FormatLong4 = [73,73,73,73] := by decide +kernel                  -- IIII
example : Roman.parse 128 false [73,73,73,73] = .ok 4 := by decide +kernel
example : Roman.format [] 1994 127 = [109,100,99,99,99,99,108,120,120,120,120,105,105,105,105] := by decide +kernel -- mdcccclxxxxiiii
example : Roman.parse 128 false (Roman.format [] 1994 127) = .ok 1994 := by decide +kernel
example : Roman.format [] 4 Gen.roman_FormatLowerCase = [105,118] := by decide +kernel                   -- iv
example : Roman.parse 128 false [105,118] = .ok 4 := by decide +kernel                                  -- F1
example : Roman.format [] 0 127 = [] := by decide +kernel
example : Roman.parse 128 false [] = .ok 0 := by decide +kernel
example : Roman.parse 128 true (Roman.format [] 0 0) = .err .invalid := by decide +kernel
example : Roman.format [] 3999 0 = [77,77,77,67,77,88,67,73,88] := by decide +kernel                    -- MMMCMXCIX
example : canonical 1994 0 = [77,67,77,88,67,73,86] := by decide +kernel
example : Roman.parse 10 false (Roman.format [] 3888 0) = .err .tooLong := by decide +kernel            -- 15 bytes: the limit hypothesis matters

end U.Props.C02
