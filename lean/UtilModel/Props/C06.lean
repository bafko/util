import UtilModel.Lemmas.SemSpec
import UtilModel.Lemmas.SemText
import UtilModel.Props.C14
/-!
# C06 — Version precedence follows SemVer 2.0.0 section 11

`Spec/SemVerOrder.lean` states §11 (`specCmp`, `specPre`, `specIdents`, `specIdent`) and the one
excluded region (`Excluded`). The comparator model (after fix F5) equals the specification on
**all** versions outside that region — validity of the fields is not even needed.
-/
namespace U.Props.C06
open U.Sem

/-- **pre-release precedence** is §11.3/11.4 outside the excluded region -/
theorem comparePre_is_spec (a b : Bytes) (h : Excluded a b = false) : comparePre a b = specPre a b := by
  unfold comparePre specPre
  rw [cmpIdents_spec _ _ h]

/-- **version precedence** is §11 outside the excluded region: numeric major, minor, patch; a release
above its pre-releases; identifiers left to right (numeric by value and below alphanumeric,
alphanumeric in ASCII order, longer list above its prefix); build metadata ignored. -/
theorem compare_is_spec (v w : Ver) (h : Excluded v.pre w.pre = false) : v.compare w = specCmp v w := by
  rw [Ver.compare_eq_lex, lex_cmpNat, lex_cmpNat, lex_cmpNat, comparePre_is_spec _ _ h]
  rfl

/-- the excluded region is what the property says on valid versions: in valid pre-releases two
identifiers that differ as text never have equal precedence, so there `Excluded` looks at the first pair of
differing identifiers only (`excludedIdents` goes on past a differing pair only when `specIdent a b = 0`) -/
theorem differing_valid_identifiers_differ (a b : Bytes) (ha : isPreIdent a = true) (hb : isPreIdent b = true)
    (hab : a ≠ b) : specIdent a b ≠ 0 := by
  -- a numeric pre-release identifier is the decimal text of its value
  have num : ∀ {s}, isPreIdent s = true → isNum s = true → dec (val s) = s := fun hs hn =>
    dec_val (((isPreIdent_iff _).mp hs).2.2 ((allDigits_iff _).mp (Bool.and_eq_true_iff.mp hn).2))
  intro hz
  unfold specIdent at hz
  cases hna : isNum a <;> cases hnb : isNum b
  · -- both alphanumeric: compared as bytes
    simp only [hna, hnb] at hz
    exact hab (cmpBytes_eq_zero.mp hz)
  · simp [hna, hnb] at hz  -- alphanumeric above numeric: never 0
  · simp [hna, hnb] at hz
  · -- both numeric: compared by value, and each is the decimal text of its value
    simp only [hna, hnb] at hz
    exact hab (by rw [← num ha hna, ← num hb hnb, cmpNat_eq_zero.mp hz])

/-- the proper-prefix case is *not* excluded: `a` vs `a1`, `a1` vs `a10` follow §11 -/
example : Excluded [97] [97, 49] = false ∧ comparePre [97] [97, 49] = -1 := by decide +kernel
example : Excluded [97, 49] [97, 49, 48] = false ∧ comparePre [97, 49] [97, 49, 48] = -1 := by decide +kernel
/-- the excluded pairs -/
example : Excluded [97, 48, 49] [97, 49] = true ∧ Excluded [97, 50] [97, 49, 49] = true := by decide +kernel

/-- **all entry points agree**: the string helpers and latest-of-two are `parse` then the value method
(C14.helpers_compare / helpers_latest), and `latest` picks by `compare` -/
theorem entry_points_agree (maxLen : Nat) (e : Entry) (a b : Bytes) (av bv : Ver)
    (ha : parseEntry maxLen e a = .ok av) (hb : parseEntry maxLen e b = .ok bv) :
    compareStr maxLen e a b = .ok (av.compare bv) ∧ latestStr maxLen e a b = .ok (av.latest bv) ∧
    av.latest bv = (if av.compare bv = -1 then bv else av) := by
  rw [C14.helpers_compare, C14.helpers_latest, ha, hb]
  exact ⟨rfl, rfl, rfl⟩

/-- the SemVer specification's own example chain
`alpha < alpha.1 < alpha.beta < beta < beta.2 < beta.11 < rc.1 < (release)`, in the specification … -/
def chain : List Bytes :=
  [[97,108,112,104,97], [97,108,112,104,97,46,49], [97,108,112,104,97,46,98,101,116,97], [98,101,116,97],
   [98,101,116,97,46,50], [98,101,116,97,46,49,49], [114,99,46,49], []]

def pairwise (f : Bytes → Bytes → Int) : List Bytes → Bool
  | a :: b :: t => f a b == -1 && f b a == 1 && pairwise f (b :: t)
  | _ => true

theorem spec_chain : pairwise specPre chain = true := by decide
/-- … and in the comparator model (none of these pairs is excluded) -/
theorem model_chain : pairwise comparePre chain = true := by decide

/-! the defect fix F5 removed: these were ordered the wrong way round by the shipped comparator -/
example : comparePre [98,101,116,97,46,50] [98,101,116,97,46,49,49] = -1 := by decide +kernel   -- beta.2 < beta.11
example : comparePre [50] [49, 97] = -1 := by decide +kernel                                      -- 2 < 1a
example : comparePre [97, 45, 98] [97, 46, 98] = 1 := by decide +kernel                           -- a-b > a.b

end U.Props.C06
