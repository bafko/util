import UtilModel.Lemmas.TestKit
import UtilModel.Lemmas.CodeTiesTest
/-!
# C20 — Marshal-test helpers report exactly the failing cases

Over the scripted model of the six helpers (`Model/TestKit.lean`) and the specification of a
*satisfied* case (`Spec/TestOracle.lean`). The full property is **false** of the unchanged code: a
case whose error predicate is `ErrorMatch` with a pattern that compiles, whose call does return an
error, and whose error text does not match, is *not* reported (known finding K1, pinned by the
repository's own `Test_ErrorMatch_Fail`). `full_statement_is_false` proves that negation in the model (witness: `errorMatch_silent`);
`reports_iff_partial` is the property for every case outside that shape.

The three Unmarshal helpers take a `TypeHelper[T]`; every statement below quantifies over it
(`hb : Option HelperBeh`, `none` = nil helper, `some b` = a scripted custom helper whose `New`,
`AssertEmpty`, `AssertEqual` differ from the defaults and whose `AssertEqual` is asymmetric). With a
custom helper "satisfied" means: the helper's own verdict about (expected := the case's value,
actual := the receiver its `New` made and the unmarshaler filled) resp. about the receiver's emptiness.
-/
namespace U.Props.C20
open U.TestKit

/-- the full statement (false, see `errorMatch_silent`) -/
def reports_iff_statement : Prop :=
  ∀ (h : Helper) (tk : TypeKind) (hb : Option HelperBeh) (cases : List Case),
    ((run h tk hb cases).1 = true ∨ (run h tk hb cases).2.any id = true) ↔
      ((implements h tk = false ∧ cases ≠ []) ∨
       (implements h tk = true ∧ ∃ c ∈ cases, applicable h c = true ∧ satisfied h hb c = false))

/-- **K1, the negation witness**: a one-case list whose marshaler returns an error that
`ErrorMatch("^nomatch$")` does not match reports nothing although the case is not satisfied — with the
nil helper and with a custom one alike. -/
theorem errorMatch_silent :
    let c : Case := ⟨0, .nil, .nil, .re true false, .err [98, 111, 111, 109] none, .err [98, 111, 111, 109] none, none, 0⟩
    let b : HelperBeh := ⟨5, true, 5, 3⟩
    run .mt .tv none [c] = (false, [false]) ∧ run .ut .tv none [c] = (false, [false]) ∧
    run .ut .tv (some b) [c] = (false, [false]) ∧
    applicable .mt c = true ∧ satisfied .mt none c = false ∧ satisfied .ut none c = false ∧
    satisfied .ut (some b) c = false := by decide

theorem full_statement_is_false : ¬ reports_iff_statement := by
  intro h
  obtain ⟨hr, _, _, ha, hs, _⟩ := errorMatch_silent
  have := (h .mt .tv none [_]).mpr (Or.inr ⟨rfl, _, List.mem_singleton.mpr rfl, ha, hs⟩)
  rw [hr] at this
  exact absurd this (by decide)

/-- **per case**: an applicable case outside the K1 shape is reported exactly when it is not satisfied -/
theorem case_reported_iff (h : Helper) (hb : Option HelperBeh) (c : Case) (hk : k1 h c = false) :
    (if h.isMarshal then marshalCase h.isBinary c else unmarshalCase hb c) = !satisfied h hb c := by
  unfold satisfied
  unfold k1 at hk
  generalize h.isMarshal = m at hk ⊢
  cases m
  · exact unmarshalCase_spec hb c hk
  · exact marshalCase_spec _ c hk

/-- **cases for the other direction are ignored** -/
theorem other_direction_ignored (h : Helper) (tk : TypeKind) (hb : Option HelperBeh) (cases : List Case)
    (i : Nat) (c : Case) (hc : cases[i]? = some c) (hna : applicable h c = false) :
    (run h tk hb cases).2[i]? = some false := by
  rw [run_eq]
  split <;> simp only [List.getElem?_map, hc, Option.map_some, verdict, hna, Bool.false_and]

/-- **list level**: something is reported (an `Errorf` for some case, or `FailNow`) iff the type lacks
the interface and there is at least one case, or some applicable case is not satisfied — for every
case list without a K1-shaped case, and for every `TypeHelper` (nil or custom). -/
theorem reports_iff_partial (h : Helper) (tk : TypeKind) (hb : Option HelperBeh) (cases : List Case)
    (hk : ∀ c ∈ cases, k1 h c = false) :
    ((run h tk hb cases).1 = true ∨ (run h tk hb cases).2.any id = true) ↔
      ((implements h tk = false ∧ cases ≠ []) ∨
       (implements h tk = true ∧ ∃ c ∈ cases, applicable h c = true ∧ satisfied h hb c = false)) := by
  rw [run_eq]
  cases implements h tk
  · simp
  · have e : cases.map (verdict h hb) = cases.map fun c => applicable h c && !satisfied h hb c :=
      List.map_congr_left fun c hc => congrArg (applicable h c && ·) (case_reported_iff h hb c (hk c hc))
    rw [e]
    simp

/-- **no panic escapes**: a panic in a hook or in the Marshal*/Unmarshal* method is an input of the
model that the helper turns into an error value (`Model/TestKit.lean`); the result always holds one verdict per case -/
theorem verdict_per_case (h : Helper) (tk : TypeKind) (hb : Option HelperBeh) (cases : List Case) :
    (run h tk hb cases).2.length = cases.length := by
  rw [run_eq]
  split <;> exact List.length_map _

/-- a type lacking the interface is reported through `FailNow` as soon as there is one case -/
theorem fail_type (h : Helper) (tk : TypeKind) (hb : Option HelperBeh) (cases : List Case)
    (hi : implements h tk = false) :
    (run h tk hb cases).1 = !cases.isEmpty := by
  rw [run_eq, hi]; rfl

/-- **the custom helper is asked the right questions**: for an Unmarshal helper, a case with passing
hooks and a custom helper `b`: without an error predicate and without an error the verdict is exactly
`b.AssertEqual(expected := c.value, actual := receiver)`, where the receiver is what the unmarshaler
stored, else `b.New(c.value)` untouched; with predicate `AnyError` and an error it is exactly
`b.AssertEmpty(receiver)`. (Argument order, the use of `New` and its argument are all pinned here.) -/
theorem custom_helper_asked (b : HelperBeh) (c : Case) (hh : hooksPass c = true) :
    (c.pred = .none → unmarshalErr c.ubeh = .none →
      unmarshalCase (some b) c = b.assertEqual c.value ((unmarshalStored c.ubeh).getD (b.new c.value))) ∧
    (c.pred = .any → unmarshalErr c.ubeh ≠ .none →
      unmarshalCase (some b) c = b.assertEmpty ((unmarshalStored c.ubeh).getD (b.new c.value))) := by
  rw [unmarshalCase_eq, hh, received_eq]
  constructor
  · intro hp he; rw [hp, he]; rfl
  · intro hp he
    rw [hp]
    cases hx : unmarshalErr c.ubeh
    · exact absurd hx he
    all_goals rfl

/-- the Marshal helpers take no `TypeHelper` -/
theorem marshal_ignores_helper (h : Helper) (tk : TypeKind) (hb : Option HelperBeh) (cases : List Case)
    (hm : h.isMarshal = true) : run h tk hb cases = run h tk none cases := by
  have : verdict h hb = verdict h none := by funext c; simp only [verdict, hm, if_true]
  rw [run_eq, run_eq, this]

example : run .mt .tv none [⟨0, .ok, .nil, .none, .data (some [97]), .ok none, some [97], 0⟩] = (false, [false]) := by decide +kernel
example : run .mt .tv none [⟨0, .ok, .nil, .none, .data (some [98]), .ok none, some [97], 0⟩] = (false, [true]) := by decide +kernel
example : run .mb .tv none [⟨0, .nil, .nil, .none, .data none, .ok none, some [], 0⟩] = (false, [true]) := by decide +kernel   -- nil vs empty
example : run .mt .tp none [⟨0, .nil, .nil, .none, .data none, .ok none, none, 0⟩] = (true, [false]) := by decide +kernel      -- FailNow
example : run .ut .tv none [⟨0, .nil, .panic, .none, .data none, .ok (some 5), none, 5⟩] = (false, [true]) := by decide +kernel -- hook panic

/-! non-vacuity with a custom `TypeHelper`: its verdict differs from the nil helper's in both directions -/
section
private def cU (p : Pred) (u : UBeh) (v : Int) : Case := ⟨0, .nil, .nil, p, .data none, u, none, v⟩
-- helper accepts what `assert.Equal` rejects: expected 1, stored 3, `3 mod 2 = 1`
example : run .ut .tv none [cU .none (.ok (some 3)) 1] = (false, [true]) := by decide +kernel
example : run .ut .tv (some ⟨0, false, 0, 2⟩) [cU .none (.ok (some 3)) 1] = (false, [false]) := by decide +kernel
-- helper rejects what `assert.Equal` accepts: expected 2, stored 2, `2 mod 2 = 0 ≠ 2`
example : run .uj .ptp none [cU .none (.ok (some 2)) 2] = (false, [false]) := by decide +kernel
example : run .uj .ptp (some ⟨0, false, 0, 2⟩) [cU .none (.ok (some 2)) 2] = (false, [true]) := by decide +kernel
-- argument order matters: (expected 1, actual 3) is accepted, (expected 3, actual 1) is not
example : run .ub .tv (some ⟨0, false, 0, 2⟩) [cU .none (.ok (some 1)) 3] = (false, [true]) := by decide +kernel
-- `New` is observable: an unmarshaler that stores nothing leaves what `New` made (5, or 5 + the case's value)
example : run .ut .tv none [cU .none (.ok none) 0] = (false, [false]) := by decide +kernel
example : run .ut .tv (some ⟨5, false, 0, 0⟩) [cU .none (.ok none) 0] = (false, [true]) := by decide +kernel
example : run .ut .tv none [cU .none (.ok none) 5] = (false, [true]) := by decide +kernel
example : run .ut .tv (some ⟨5, false, 0, 0⟩) [cU .none (.ok none) 5] = (false, [false]) := by decide +kernel
example : run .ut .tv (some ⟨1, true, 0, 0⟩) [cU .none (.ok none) 2] = (false, [true]) := by decide +kernel    -- New(2) = 3 ≠ 2
example : run .ut .tv (some ⟨0, true, 0, 0⟩) [cU .none (.ok none) 2] = (false, [false]) := by decide +kernel   -- New(2) = 2
-- expected error: the helper's idea of "empty" (7) replaces the zero value
example : run .ut .tv none [cU .any (.err [101] (some 7)) 0] = (false, [true]) := by decide +kernel
example : run .ut .tv (some ⟨0, false, 7, 0⟩) [cU .any (.err [101] (some 7)) 0] = (false, [false]) := by decide +kernel
example : run .ut .tv none [cU .any (.err [101] none) 0] = (false, [false]) := by decide +kernel
example : run .ut .tv (some ⟨0, false, 7, 0⟩) [cU .any (.err [101] none) 0] = (false, [true]) := by decide +kernel
example : run .ut .tv (some ⟨7, false, 7, 0⟩) [cU .any (.err [101] none) 0] = (false, [false]) := by decide +kernel
-- the specification agrees on all of these
example : satisfied .ut (some ⟨0, false, 0, 2⟩) (cU .none (.ok (some 3)) 1) = true ∧ satisfied .ut none (cU .none (.ok (some 3)) 1) = false ∧
    satisfied .ut (some ⟨0, false, 0, 2⟩) (cU .none (.ok (some 2)) 2) = false ∧ satisfied .ut none (cU .none (.ok (some 2)) 2) = true ∧
    satisfied .ut (some ⟨0, false, 7, 0⟩) (cU .any (.err [101] (some 7)) 0) = true ∧ satisfied .ut none (cU .any (.err [101] (some 7)) 0) = false := by decide +kernel
-- a type without the interface is reported whatever the helper
example : run .ut .tn (some ⟨5, true, 7, 2⟩) [cU .none (.ok none) 0] = (true, [false]) := by decide +kernel
end

/-- **hooks that edit the case** (list level, full strength): with hooks that write `Data`, `Value`, `Error`
(and `Constraint`) into the case they are handed, something is reported iff the type lacks the interface and
there is a case, or some case that is applicable *as written in the list* is not satisfied *as completed by its
hooks* — for every list without a K1-shaped completed case and every `TypeHelper`. -/
theorem reportsX_iff_partial (h : Helper) (tk : TypeKind) (hb : Option HelperBeh) (xs : List XCase)
    (hk : ∀ x ∈ xs, k1 h x.completed = false) :
    ((runX h tk hb xs).1 = true ∨ (runX h tk hb xs).2.any id = true) ↔
      ((implements h tk = false ∧ xs ≠ []) ∨
       (implements h tk = true ∧ ∃ x ∈ xs, applicable h x.base = true ∧ satisfied h hb x.completed = false)) := by
  unfold runX
  rw [eff_eq_completed, reports_iff_partial h tk hb _ (by simpa using hk)]
  simp only [ne_eq, List.map_eq_nil_iff, exists_mem_map, applicable_completed]

/-- per case: the verdict on a case with editing hooks is the verdict on the completed case -/
theorem caseX_reported_iff (h : Helper) (hb : Option HelperBeh) (x : XCase) (hk : k1 h x.completed = false) :
    (if h.isMarshal then marshalCase h.isBinary x.eff else unmarshalCase hb x.eff) = !satisfied h hb x.completed := by
  rw [eff_eq_completed]; exact case_reported_iff h hb x.completed hk

/-- a `Constraint` written by a hook has no effect -/
theorem hook_constraint_ignored (h : Helper) (tk : TypeKind) (hb : Option HelperBeh) (xs : List XCase) (n m : Option Nat) :
    runX h tk hb (xs.map fun x => { x with before := { x.before with constraint := n }, after := { x.after with constraint := m } }) =
      runX h tk hb xs := by
  unfold runX
  rw [List.map_map]
  -- `XCase.eff` does not read `Edit.constraint`: the two functions mapped over `xs` are the same by `rfl`
  congr 1

/-- conservative extension: hooks that write nothing give the helpers of the unedited cases -/
theorem runX_no_edits (h : Helper) (tk : TypeKind) (hb : Option HelperBeh) (cases : List Case) :
    runX h tk hb (cases.map fun c => ⟨c, Edit.none, Edit.none⟩) = run h tk hb cases := by
  unfold runX
  rw [List.map_map, eff_eq_completed]
  have : (XCase.completed ∘ fun c => (⟨c, Edit.none, Edit.none⟩ : XCase)) = id := by
    funext c
    simp only [Function.comp, XCase.completed, Edit.none, lastWrite_eq, ite_self, Option.getD_none, id]
  rw [this, List.map_id]

/-- cases for the other direction stay ignored, whatever their hooks would write -/
theorem otherX_direction_ignored (h : Helper) (tk : TypeKind) (hb : Option HelperBeh) (xs : List XCase)
    (i : Nat) (x : XCase) (hx : xs[i]? = some x) (hna : applicable h x.base = false) :
    (runX h tk hb xs).2[i]? = some false := by
  unfold runX
  apply other_direction_ignored h tk hb (xs.map XCase.eff) i x.eff
  · simp [hx]
  · rw [eff_eq_completed, applicable_completed]; exact hna

/-! non-vacuity: the Before hook completes a case whose literal is wrong, and spoils one whose literal is right -/
section
private def lit (d : Option Bytes) (p : Pred) (m : MBeh) : Case := ⟨0, .ok, .nil, p, m, .ok none, d, 0⟩
example : runX .mt .tv none [⟨lit (some [120]) .none (.data (some [97])), ⟨some (some [97]), none, none, none⟩, Edit.none⟩] = (false, [false]) := by decide +kernel
example : run .mt .tv none [lit (some [120]) .none (.data (some [97]))] = (false, [true]) := by decide +kernel
example : runX .mt .tv none [⟨lit (some [97]) .none (.data (some [97])), ⟨some (some [120]), none, none, none⟩, Edit.none⟩] = (false, [true]) := by decide +kernel
-- the hook sets the error predicate
example : runX .mj .tv none [⟨lit none .none (.err [98] none), ⟨none, none, some (.eq [98]), none⟩, Edit.none⟩] = (false, [false]) := by decide +kernel
-- an absent hook writes nothing
example : runX .mt .tv none [⟨{ lit (some [120]) .none (.data (some [97])) with before := .nil }, ⟨some (some [97]), none, none, none⟩, Edit.none⟩] = (false, [true]) := by decide +kernel
-- After writes last
example : runX .mt .tv none [⟨{ lit (some [120]) .none (.data (some [97])) with after := .ok }, ⟨some (some [98]), none, none, none⟩, ⟨some (some [97]), none, none, none⟩⟩] = (false, [false]) := by decide +kernel
-- Value: the number New gets and the expected value (Unmarshal helpers)
example : runX .ut .tv none [⟨⟨0, .ok, .nil, .none, .data none, .ok (some 5), none, 0⟩, ⟨none, some 5, none, none⟩, Edit.none⟩] = (false, [false]) := by decide +kernel
example : runX .ut .tv (some ⟨1, true, 0, 0⟩) [⟨⟨0, .ok, .nil, .none, .data none, .ok none, none, 0⟩, ⟨none, some 2, none, none⟩, Edit.none⟩] = (false, [true]) := by decide +kernel  -- New(2) = 3 ≠ 2
-- a constraint written by Before comes too late
example : runX .mt .tv none [⟨lit (some [120]) .none (.data (some [97])), ⟨none, none, none, some 2⟩, Edit.none⟩] = (false, [true]) := by decide +kernel
end

/-- **tie to the source**: `isForMarshal` / `isForUnmarshal` as translated from `test/constraint.go` on this run -/
theorem constraint_code_tie (c : Nat) :
    isForMarshal c = Gen.test_isForMarshal c ∧ isForUnmarshal c = Gen.test_isForUnmarshal c :=
  CodeTies.isFor_tie c

end U.Props.C20
