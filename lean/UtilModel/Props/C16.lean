import UtilModel.Model.Date
import UtilModel.Model.Roman
import UtilModel.Model.Sem
import UtilModel.Model.Size
import UtilModel.Lemmas.UUText
/-!
# C16 — Formatters append to the caller's buffer without disturbing it

For each of the five `DefaultFormatter` models: the result is the caller's bytes, unchanged, followed
by exactly what formatting into an empty buffer produces — for every value, flag set and prefix.
The model of `roman.DefaultFormatter` lower-cases only the appended numeral (fix F2); that the real
code treats the prefix the same way is what the correspondence run checks with prefixes made of the
very letters the formatter emits. In-place modification of the caller's backing array and spare
capacity are memory-level facts checked on the implementation only.
-/
namespace U.Props.C16

theorem date_append (buf : Bytes) (d : Date.Date) (basic : Bool) :
    Date.format buf d basic = buf ++ Date.format [] d basic := by
  unfold Date.format
  cases basic <;> simp [List.append_assoc]

theorem roman_append (buf : Bytes) (n f : Nat) :
    Roman.format buf n f = buf ++ Roman.format [] n f := by
  unfold Roman.format
  split
  · simp
  · split <;> simp

theorem sem_append (buf : Bytes) (v : Sem.Ver) (tag : Bool) :
    Sem.format buf v tag = buf ++ Sem.format [] v tag := by
  unfold Sem.format
  cases tag <;> simp [List.append_assoc]

theorem size_append (buf : Bytes) (s f : Nat) :
    Size.format buf s f = buf ++ Size.format [] s f := by
  unfold Size.format
  simp [List.append_assoc]

theorem uu_append (buf : Bytes) (i : UU.ID) (urn : Bool) :
    UU.format buf i urn = buf ++ UU.format [] i urn :=
  UU.format_append buf i urn

/-- the URN rendering is the prefix `urn:uuid:` followed by the plain rendering -/
theorem urn_is_prefix_plus_plain (i : UU.ID) :
    i.urn = [117, 114, 110, 58, 117, 117, 105, 100, 58] ++ UU.format [] i false :=
  i.urn_eq.trans (UU.format_urn i)

/-- … and equals the formatter's own URN form -/
theorem urn_eq_format_urn (i : UU.ID) : i.urn = UU.format [] i true :=
  i.urn_eq

/-- the lower-case flag never reaches the caller's bytes: even a prefix made of numeral letters survives -/
example : Roman.format [77, 73, 88, 32] 4 64 = [77, 73, 88, 32, 105, 118] := by decide +kernel
example : Date.format [45, 48] (Date.new 2024 2 29) false = [45, 48, 50,48,50,52,45,48,50,45,50,57] := by decide +kernel

end U.Props.C16
