import UtilModel.Lemmas.DateText
/-!
# C01 — Date text round-trip is lossless and canonical

Every real calendar date with year 0…999,999,999 (`ValidDate y m d`) formats to the zero-padded ISO
text and parses back to the same value through the model of `DefaultFormatter` / `DefaultParser`;
`MarshalText`, `String`, the `fmt` verbs and `UnmarshalText` are instances of these two (their switch
tables and flag constants are generated from the source). JSON and XML plumbing is exercised on the
implementation only (harness), see DESIGN §7.
-/
namespace U.Props.C01
open U.Date U.GoTime

/-- generated facts the hand-written formatter/parser model relies on: the two `fmt` format strings,
the flag and rule bits, the default input limit -/
theorem source_facts :
    Gen.date_formatExtended = "%04d-%02d-%02d" ∧ Gen.date_formatBasic = "%04d%02d%02d" ∧
    Gen.date_FormatBasic = 1 ∧ Gen.date_RuleDisableBasic = 1 ∧ Gen.date_MaxInputLength = 10 := by decide

/-- **canonical text**: zero-padded year (at least four digits), `-`, two-digit month, `-`, two-digit day;
or the same without separators for the basic flag. -/
theorem format_canonical (y m d : Nat) (hv : ValidDate y m d) (hy : y ≤ 999999999) (basic : Bool) :
    format [] (new y m d) basic = text (!basic) (padDec 4 y) (48 + m / 10) (48 + m % 10) (48 + d / 10) (48 + d % 10) := by
  have hb := hv.bounds
  unfold format
  rw [date_new_valid hv ⟨by omega, by omega⟩]
  simp only [Int.toNat_natCast, List.nil_append]
  rw [padDecInt_nonneg 4 (y : Int) (by omega), Int.toNat_natCast, padDec2 m (by omega), padDec2 d (by omega)]
  cases basic <;> simp [text]

/-- for years 0000–9999 the text has exactly four year digits: `YYYY-MM-DD` is 10 bytes, `YYYYMMDD` 8 -/
theorem format_canonical_4digit (y m d : Nat) (hv : ValidDate y m d) (hy : y ≤ 9999) (basic : Bool) :
    format [] (new y m d) basic = text (!basic) (fixed 4 y) (48 + m / 10) (48 + m % 10) (48 + d / 10) (48 + d % 10) ∧
    (format [] (new y m d) basic).length = if basic then 8 else 10 := by
  have h := format_canonical y m d hv (by omega) basic
  rw [padDec_small 4 y (by decide) (by omega)] at h
  refine ⟨h, ?_⟩
  rw [h]
  cases basic <;> simp [text, fixed_length]

/-- **round trip**: the canonical text parses back to the same date whenever it fits the input limit
(limit 0 = none) and its form is allowed by the rule. -/
theorem parse_format (maxLen : Nat) (disableBasic basic : Bool) (y m d : Nat) (hv : ValidDate y m d)
    (hy : y ≤ 999999999)
    (hlen : maxLen = 0 ∨ (format [] (new y m d) basic).length ≤ maxLen)
    (hrule : basic = true → disableBasic = false) :
    parse maxLen disableBasic (format [] (new y m d) basic) = .ok (new y m d) := by
  rw [format_canonical y m d hv hy basic] at hlen ⊢
  have hb := hv.bounds
  obtain ⟨hm1, hm2, hvm⟩ := digit_pair m (by omega)
  obtain ⟨hd1, hd2, hvd⟩ := digit_pair d (by omega)
  have hl : 4 ≤ (padDec 4 y).length ∧ (padDec 4 y).length ≤ 9 := by
    have := ndigits_le 9 y (by decide) (by omega)
    rw [padDec_length]; omega
  rw [parse_complete maxLen disableBasic (!basic) _ _ _ _ _ (allDigits_padDec 4 y) hl hm1 hm2 hd1 hd2 (val_padDec 4 y) hvm hvd hv hlen]
  cases basic
  · simp
  · simp [hrule rfl]

/-- with the default limit (10) every date of years 0000–9999 round-trips in both forms -/
theorem parse_format_default (basic : Bool) (y m d : Nat) (hv : ValidDate y m d) (hy : y ≤ 9999) :
    parse Gen.date_MaxInputLength false (format [] (new y m d) basic) = .ok (new y m d) := by
  apply parse_format _ _ _ y m d hv (by omega)
  · right
    rw [(format_canonical_4digit y m d hv hy basic).2]
    cases basic <;> decide
  · intro _; rfl

/-- **all text paths agree**: `MarshalText`, `String`, `%s`, `%e`, `%v` give the extended text, `%b` the basic
one (flag constants and the verb switch come from the source). -/
theorem paths_agree (x : Date) :
    marshalText x = format [] x false ∧ Date.toString x = format [] x false ∧
    formatVerb x 115 = format [] x false ∧ formatVerb x 101 = format [] x false ∧
    formatVerb x 118 = format [] x false ∧ formatVerb x 98 = format [] x true := by
  have e0 : isBasic 0 = false := by decide
  have es : isBasic (flagsByVerb 115) = false := by decide
  have ee : isBasic (flagsByVerb 101) = false := by decide
  have ev : isBasic (flagsByVerb 118) = false := by decide
  have eb : isBasic (flagsByVerb 98) = true := by decide
  simp only [marshalText, Date.toString, formatVerb, e0, es, ee, ev, eb, and_self]

/-- `UnmarshalText ∘ MarshalText` is the identity on real dates (default limit, years 0000–9999; any
year up to 999,999,999 once the limit is raised or disabled) -/
theorem unmarshal_marshal (maxLen : Nat) (y m d : Nat) (hv : ValidDate y m d) (hy : y ≤ 999999999)
    (hlen : maxLen = 0 ∨ (marshalText (new y m d)).length ≤ maxLen) :
    unmarshalText maxLen (marshalText (new y m d)) = .ok (new y m d) := by
  have e0 : isBasic 0 = false := by decide
  have r0 : ruleDisableBasic 0 = false := by decide
  simp only [marshalText, unmarshalText, e0, r0] at hlen ⊢
  exact parse_format maxLen false false y m d hv hy hlen (by intro h; cases h)

/-! non-vacuity -/
example : ValidDate (2024 : Nat) 2 (29 : Nat) := by decide +kernel
example : format [] (new 2024 2 29) false = [50,48,50,52,45,48,50,45,50,57] := by decide +kernel
example : format [] (new 7 1 2) true = [48,48,48,55,48,49,48,50] := by decide +kernel
example : parse 0 false (format [] (new 123456789 12 31) true) = .ok (new 123456789 12 31) := by decide +kernel
example : parse 10 false (format [] (new 123456789 12 31) true) = .err .tooLong := by decide +kernel

end U.Props.C01
