import UtilModel.Model.Hist
import UtilModel.Gen.Facts
/-!
# C17 — Failed parses leave receiver and input untouched; string and bytes agree

The model of a receiver under a history of UnmarshalText / UnmarshalJSON / UnmarshalBinary / Scan
calls (`Model/Hist.lean`, package globals at their generated defaults). `Date.UnmarshalBinary` is
modelled statement by statement: all checks (F4) precede the three field assignments. The real
receiver is compared with the model after **every** call of every generated history by the
correspondence run. Not expressible in a pure model and therefore checked on the implementation
only: input buffers are neither modified nor retained (snapshot / scribble), and the `string`,
`[]byte` and named-type instantiations of every generic entry point agree in value and message (the
model has a single function for all of them).
-/
namespace U.Props.C17
open U.Hist

private theorem keep_failed {α} {r : Recv} {mk : α → Recv} {o : Outcome α} (h : (keep r mk o).2 ≠ .ok) : (keep r mk o).1 = r := by
  cases o with
  | ok a => exact absurd rfl h
  | _ => rfl

private theorem keep_independent {α} (r r' : Recv) (mk : α → Recv) (o : Outcome α) :
    (keep r mk o).2 = (keep r' mk o).2 ∧ ((keep r mk o).2 = .ok → (keep r mk o).1 = (keep r' mk o).1) := by
  cases o with
  | ok a => exact ⟨rfl, fun _ => rfl⟩
  | err e => exact ⟨rfl, nofun⟩
  | panic => exact ⟨rfl, nofun⟩

/-- the three field assignments of `Date.UnmarshalBinary` amount to one assignment of the decoded date -/
private theorem step_binary (d : Date.Date) (s : Bytes) :
    step (.date d) (.binary s) = keep (.date d) .date (Date.unmarshalBinary s) := by
  show (Recv.date (dateUnmarshalBinary d s).1, (dateUnmarshalBinary d s).2) = _
  unfold dateUnmarshalBinary
  cases Date.unmarshalBinary s <;> rfl

/-- **a call that does not succeed leaves the receiver exactly as it was** — for every receiver type,
every kind of call and every input -/
theorem failed_step_keeps_state (r : Recv) (op : HOp) (h : (step r op).2 ≠ .ok) : (step r op).1 = r := by
  cases r <;> cases op
  case date.binary => rw [step_binary] at h ⊢; exact keep_failed h
  case date.scanTime => exact absurd rfl h
  case date.text | roman.text | sem.text | size.text | size.json | uu.text => exact keep_failed h
  all_goals rfl

/-- … including a value decoded by an earlier successful call: a failing call anywhere in a history
can be deleted without changing the receiver at any later point -/
theorem failed_call_is_invisible (r : Recv) (a b : List HOp) (op : HOp)
    (h : (step (final r a) op).2 ≠ .ok) : final r (a ++ [op] ++ b) = final r (a ++ b) := by
  unfold final at *
  simp only [List.foldl_append, List.foldl_cons, List.foldl_nil]
  rw [failed_step_keeps_state _ _ h]

/-- the receiver after a history is the value stored by its last successful call (or the initial value) -/
theorem final_snoc (r : Recv) (ops : List HOp) (op : HOp) :
    final r (ops ++ [op]) = if (step (final r ops) op).2 = .ok then (step (final r ops) op).1 else final r ops := by
  unfold final
  simp only [List.foldl_append, List.foldl_cons, List.foldl_nil]
  split
  · rfl
  · rename_i h; exact failed_step_keeps_state _ _ h

/-- whether a call succeeds, and what it stores, does not depend on what the receiver held before (stated for a `Date` receiver) -/
theorem step_independent_of_old_value (d d' : Date.Date) (op : HOp) :
    (step (.date d) op).2 = (step (.date d') op).2 ∧
    ((step (.date d) op).2 = .ok → (step (.date d) op).1 = (step (.date d') op).1) := by
  cases op
  case text => exact keep_independent ..
  case binary => rw [step_binary, step_binary]; exact keep_independent ..
  case scanTime => exact ⟨rfl, fun _ => rfl⟩
  all_goals exact ⟨rfl, nofun⟩

/-! non-vacuity: a success, then three different failures, then a success -/
example :
    (run (.date Date.zero) [.text [50,48,50,52,45,48,50,45,50,57], .text [120], .binary [1,0,0,7,230,13,32], .scanOther,
                            .binary [1,0,0,7,230,12,31]]).map (·.2)
      = [.ok, .err .invalid, .err .invalidDate, .err .invalidType, .ok] := by decide +kernel
example :
    final (.date Date.zero) [.text [50,48,50,52,45,48,50,45,50,57], .text [120], .binary [1,0,0,7,230,13,32]]
      = .date (Date.new 2024 2 29) := by decide +kernel

/-- **structure facts extracted from the source on this run**: in every `Unmarshal*` method the assignments
through the receiver are top-level statements that come after every check (no `if`, no error return
follows the first of them) — so a call that returns an error has not touched the receiver -/
theorem receiver_assign_facts :
    Gen.date_Date_UnmarshalBinary_assignsAfterChecks = true ∧ Gen.date_Date_UnmarshalText_assignsAfterChecks = true ∧
    Gen.roman_Number_UnmarshalText_assignsAfterChecks = true ∧ Gen.sem_Ver_UnmarshalText_assignsAfterChecks = true ∧
    Gen.size_Size_UnmarshalText_assignsAfterChecks = true ∧ Gen.size_Size_UnmarshalJSON_assignsAfterChecks = true ∧
    Gen.uu_ID_UnmarshalText_assignsAfterChecks = true := by decide

end U.Props.C17
