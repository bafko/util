import UtilModel.Lemmas.DateBasics
import UtilModel.Lemmas.CodeTiesDate
/-!
# C11 — Date binary encoding is stable, strict and lossless

Statements about `Date.marshalBinary` / `Date.unmarshalBinary` (model of `MarshalBinary` /
`UnmarshalBinary` after fix F4). Property theorems only; helper lemmas live in `Lemmas/`.
-/
namespace U.Props.C11
open U.Date U.GoTime

/-- generated fact: the version byte in the source is 1 -/
theorem version_is_one : Gen.date_version = 1 := rfl

/-- big-endian two's-complement decoding of four bytes -/
def be32 (b1 b2 b3 b4 : Nat) : Int := wrap32 ((b1 * 16777216 + b2 * 65536 + b3 * 256 + b4 : Nat) : Int)

/-- **layout**: seven bytes — version 1, the visible year as big-endian signed 32-bit, month, day — for
every stored value (no validity assumption). -/
theorem marshal_layout (d : Date) :
    ∃ b1 b2 b3 b4, marshalBinary d = [1, b1, b2, b3, b4, d.date.2.1, d.date.2.2] ∧
      b1 < 256 ∧ b2 < 256 ∧ b3 < 256 ∧ b4 < 256 ∧ be32 b1 b2 b3 b4 = d.date.1 :=
  ⟨_, _, _, _, marshalBinary_eq d, byteOf_lt _, byteOf_lt _, byteOf_lt _, byteOf_lt _, wrap32_bytes (wrap32_range _)⟩

/-- **round trip**: every real calendar date within ±999,999,999 years survives marshal → unmarshal. -/
theorem roundtrip (y : Int) (m : Nat) (d : Int) (hv : ValidDate y m d)
    (hy : -999999999 ≤ y ∧ y ≤ 999999999) :
    unmarshalBinary (marshalBinary (new y m d)) = .ok (new y m d) :=
  unmarshalBinary_marshalBinary (proper_new hv ⟨by omega, by omega⟩)

/-- **strictness**: empty input, wrong version, wrong length — each with its documented error. -/
theorem strict_empty : unmarshalBinary [] = .err .invalidLength := rfl

theorem strict_version (v : Nat) (rest : Bytes) (h : v ≠ 1) :
    unmarshalBinary (v :: rest) = .err .unsupportedVersion := by
  unfold unmarshalBinary; simp [h, version_is_one]

theorem strict_length (rest : Bytes) (h : rest.length ≠ 6) :
    unmarshalBinary (1 :: rest) = .err .invalidLength := by
  rw [unmarshalBinary_length 1 rest h, if_neg (by decide)]

/-- **only real dates**: whatever bytes are accepted, the resulting value reads back as an existing
calendar day (month 1–12, day within that month of that year), and it is the date the bytes spell. -/
theorem decodes_only_real_dates (bs : Bytes) (d : Date) (h : unmarshalBinary bs = .ok d) :
    ValidDate d.date.1 d.date.2.1 d.date.2.2 ∧
    ∃ b1 b2 b3 b4 m dd, bs = [1, b1, b2, b3, b4, m, dd] ∧ d.date = (be32 b1 b2 b3 b4, m, dd) := by
  obtain ⟨b1, b2, b3, b4, m, dd, rfl, hv, rfl⟩ := unmarshalBinary_ok h
  rw [date_store hv (wrap32_range _)]
  exact ⟨hv, b1, b2, b3, b4, m, dd, rfl, rfl⟩

/-! non-vacuity: the hypotheses are met by concrete dates, and a non-date is refused -/
example : ValidDate 2024 2 29 ∧ (-999999999 : Int) ≤ 2024 ∧ (2024 : Int) ≤ 999999999 := by decide +kernel
example : unmarshalBinary (marshalBinary (new 2024 2 29)) = .ok (new 2024 2 29) := by decide +kernel
example : unmarshalBinary [1, 0, 0, 7, 230, 13, 32] = .err .invalidDate := by decide +kernel
example : unmarshalBinary (marshalBinary (new (-999999999) 12 31)) = .ok (new (-999999999) 12 31) := by decide +kernel

/-- **tie to the source**: `Date.MarshalBinary` and `Date.UnmarshalBinary` as translated from `date/date.go` on this
run — Go's `int32`/`uint8` arithmetic made explicit over the integers, every `if … return fmt.Errorf("…%w…", ErrX)` as
the sentinel's name, the final receiver fields as the result — compute the model's `marshalBinary` and
`unmarshalBinary` (whatever the receiver held before, for every byte string) -/
theorem binary_code_tie (d : Date) (dy dm dd : Int) (bs : Bytes) :
    Gen.date_MarshalBinary d.year d.month d.day = .ok ((marshalBinary d).map (fun b : Nat => (b : Int))) ∧
    Gen.date_UnmarshalBinary dy dm dd bs = CodeTies.encOut CodeTies.itriple (unmarshalBinary bs) :=
  ⟨CodeTies.marshalBinary_tie d, CodeTies.unmarshalBinary_tie dy dm dd bs⟩

example : Gen.date_UnmarshalBinary 0 0 0 [1, 0, 0, 7, 232, 2, 29] = .ok (2023, 1, 28) := rfl
example : Gen.date_UnmarshalBinary 0 0 0 [1, 0, 0, 7, 231, 2, 29] = .error "ErrInvalidDate" := rfl
example : Gen.date_UnmarshalBinary 0 0 0 [2, 0, 0, 7, 232, 2, 29] = .error "ErrUnsupportedVersion" := rfl

end U.Props.C11
