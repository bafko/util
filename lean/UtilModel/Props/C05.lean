import UtilModel.Lemmas.UUText
import UtilModel.Lemmas.CodeTiesUU
/-!
# C05 — UUID text form is exact, strict and round-trips

`UU.format [] i urn` models `DefaultFormatter(nil, id, f)` (`urn` ⇔ `f & FormatURN != 0`);
`UU.parse maxLen dURN dUpper s` models `DefaultParser(input, r)` with `MaxInputLength = maxLen`,
`dURN` ⇔ `r & RuleDisableURN != 0`, `dUpper` ⇔ `r & RuleDisableUpperCaseDigits != 0`.
An ID is two arbitrary 64-bit words; all theorems are for every ID and every byte string.

Vocabulary (defined in `Lemmas/UU.lean`, `Lemmas/UUText.lean`; `nibble`, `pos`, `normalise`, `URNCasing` are restated below by `rfl` theorems):
`nibble i k` — `k`-th hex digit (0 most significant … 31) of the 128-bit big-endian value `Higher‖Lower`;
`pos k` — text position of digit `k` in the 8-4-4-4-12 layout; `lowerHex`/`upperHex` — case change of the
letters `A`–`F`/`a`–`f` only; `URNCasing p` — `p` is `urn` in any of its 8 casings followed by exactly
`:uuid:`; `normalise s` — drop the nine prefix bytes of a 45-byte input and lower-case `A`–`F`;
`HexByte dUpper c` — `c` is `0`–`9`, `a`–`f`, or (unless `dUpper`) `A`–`F`;
`Framed dURN s off` — `s` has length 36 (`off = 0`) or length 45 with an accepted prefix (`off = 9`).
A rejected input has outcome `.err e`, which carries no ID: the Go function returns the zero `ID{}` on every
error path, which the correspondence run checks.

All proofs are kernel-only (`propext`, `Classical.choice`, `Quot.sound`); no `bv_decide`.
-/
namespace U.Props.C05
open U.UU

/-! ## the specification vocabulary, spelled out -/

theorem nibble_spec (i : ID) (k : Nat) :
    nibble i k = (i.hi.toNat * 2 ^ 64 + i.lo.toNat) / 16 ^ (31 - k) % 16 := rfl

theorem pos_spec (k : Nat) :
    pos k = if k < 8 then k else if k < 12 then k + 1 else if k < 16 then k + 2 else if k < 20 then k + 3
      else k + 4 := rfl

theorem normalise_spec (s : Bytes) :
    normalise s = (if s.length = 45 then s.drop 9 else s).map
      (fun c => if 65 ≤ c ∧ c ≤ 70 then c + 32 else c) := rfl

theorem urnCasing_spec (p : Bytes) :
    URNCasing p ↔ ∃ c0 c1 c2, p = [c0, c1, c2, 58, 117, 117, 105, 100, 58] ∧
      (c0 = 117 ∨ c0 = 85) ∧ (c1 = 114 ∨ c1 = 82) ∧ (c2 = 110 ∨ c2 = 78) := Iff.rfl

/-! ## formatting -/

/-- **layout**: 36 bytes, `-` at 8, 13, 18, 23, and at the position of digit `k` the lower-case hex digit of
the `k`-th nibble of the big-endian 128-bit value -/
theorem layout (i : ID) :
    (format [] i false).length = 36 ∧
    (∀ p, p ∈ [8, 13, 18, 23] → (format [] i false)[p]? = some 45) ∧
    (∀ k, k < 32 → (format [] i false)[pos k]? = some (hexDigit (nibble i k))) :=
  (eq_layoutOf_iff _ _).mp (format_eq_layout i)

/-- the digit bytes are `0`–`9`, `a`–`f` only -/
theorem layout_lower (i : ID) (c : Nat) (hc : c ∈ format [] i false) :
    c = 45 ∨ (48 ≤ c ∧ c ≤ 57) ∨ (97 ≤ c ∧ c ≤ 102) := by
  rw [format_eq_layout, layoutOf, List.mem_map] at hc
  obtain ⟨p, _, rfl⟩ := hc
  split
  · exact Or.inl rfl
  · exact Or.inr (hexDigit_lower _ (nibble_lt i _))

/-- **URN form** = `urn:uuid:` followed by the same 36 bytes (45 in all); `ID.URN()` is that text -/
theorem layout_urn (i : ID) :
    format [] i true = Gen.uu_URNPrefix ++ format [] i false ∧ (format [] i true).length = 45 ∧
    i.urn = format [] i true :=
  ⟨format_urn i, by rw [format_urn, List.length_append, format_length]; rfl, i.urn_eq⟩

/-- `Gen.uu_starts` are the 16 byte-pair offsets in order, `Gen.uu_hyphens` the four hyphen positions -/
theorem starts_shape :
    Gen.uu_starts = (List.range 16).map (fun j => pos (2 * j)) ∧
    (∀ j, j < 16 → pos (2 * j + 1) = pos (2 * j) + 1) ∧
    Gen.uu_hyphens = [8, 13, 18, 23] ∧ Gen.uu_IDLength = 36 ∧
    Gen.uu_URNPrefix = [117, 114, 110, 58, 117, 117, 105, 100, 58] :=
  ⟨by decide, by decide, rfl, rfl, rfl⟩

/-! ## strictness -/

/-- **acceptance, exactly**: `parse` returns `i` iff the input respects the limit and is an optional
accepted URN prefix followed by 36 bytes which, with `A`–`F` lower-cased, are the canonical text of `i`
— verbatim so when upper-case digits are disabled. (Mixed-case digits are covered.) -/
theorem accepts_iff (maxLen : Nat) (dURN dUpper : Bool) (s : Bytes) (i : ID) :
    parse maxLen dURN dUpper s = .ok i ↔
      (maxLen = 0 ∨ s.length ≤ maxLen) ∧
      ∃ pre body, s = pre ++ body ∧ (pre = [] ∨ (dURN = false ∧ URNCasing pre)) ∧
        body.map lowerHex = format [] i false ∧ (dUpper = true → body = format [] i false) := by
  rw [parse_ok_iff_framed]
  refine and_congr_right fun _ => ⟨?_, ?_⟩
  · rintro ⟨off, hf, hm, hup⟩
    refine ⟨s.take off, s.drop off, (List.take_append_drop off s).symm, ?_, hm, hup⟩
    rcases hf with ⟨_, rfl⟩ | ⟨_, rfl, hd, hc⟩
    · exact Or.inl rfl
    · exact Or.inr ⟨hd, hc⟩
  · rintro ⟨pre, body, rfl, hpre, hm, hup⟩
    have hb : body.length = 36 := by
      have := congrArg List.length hm
      rwa [List.length_map, format_length] at this
    refine ⟨pre.length, ?_, by rw [List.drop_left]; exact ⟨hm, hup⟩⟩
    rcases hpre with rfl | ⟨hd, hc⟩
    · exact Or.inl ⟨hb, rfl⟩
    · have h9 := hc.length
      exact Or.inr ⟨by rw [List.length_append]; omega, h9, hd, by rw [List.take_left' h9]; exact hc⟩

/-- **strict**: an accepted input, once the prefix is stripped and `A`–`F` lower-cased, is exactly the
canonical text of the returned ID — so nothing but the texts of `roundtrip_cases` (and their mixed-case
variants) is accepted, and the ID is determined by the text -/
theorem strict (maxLen : Nat) (dURN dUpper : Bool) (s : Bytes) (i : ID)
    (h : parse maxLen dURN dUpper s = .ok i) : normalise s = format [] i false := by
  obtain ⟨_, off, hf, hm, _⟩ := (parse_ok_iff_framed _ _ _ _ _).mp h
  rw [normalise, hf.drop_eq, hm]

/-- what else an accepted input satisfies: length 36, or 45 with the URN form enabled and an accepted
prefix; and no upper-case digit when those are disabled -/
theorem strict_frame (maxLen : Nat) (dURN dUpper : Bool) (s : Bytes) (i : ID)
    (h : parse maxLen dURN dUpper s = .ok i) :
    (maxLen = 0 ∨ s.length ≤ maxLen) ∧
    (s.length = 36 ∨ (s.length = 45 ∧ dURN = false ∧ URNCasing (s.take 9))) ∧
    (dUpper = true → (if s.length = 45 then s.drop 9 else s) = format [] i false) := by
  obtain ⟨hlen, off, hf, _, hu⟩ := (parse_ok_iff_framed _ _ _ _ _).mp h
  refine ⟨hlen, ?_, fun hd => hf.drop_eq ▸ hu hd⟩
  rcases hf with ⟨h36, _⟩ | ⟨h45, _, hd, hc⟩
  · exact Or.inl h36
  · exact Or.inr ⟨h45, hd, hc⟩

/-! ## round trip -/

/-- **round trip, any case**: with any accepted prefix (`urn` in each of its 8 casings) or none, and with the
hex letters upper-cased when upper case is not disabled -/
theorem roundtrip_cases (maxLen : Nat) (dURN dUpper : Bool) (i : ID) (pre : Bytes) (upper : Bool)
    (hpre : pre = [] ∨ (dURN = false ∧ URNCasing pre)) (hup : upper = true → dUpper = false)
    (hlen : maxLen = 0 ∨ pre.length + 36 ≤ maxLen) :
    parse maxLen dURN dUpper
      (pre ++ if upper then (format [] i false).map upperHex else format [] i false) = .ok i := by
  rw [accepts_iff]
  cases upper
  · rw [if_neg Bool.false_ne_true]
    exact ⟨by rwa [List.length_append, format_length], pre, _, rfl, hpre, map_lowerHex_format i, fun _ => rfl⟩
  · rw [if_pos rfl]
    refine ⟨by rwa [List.length_append, List.length_map, format_length], pre, _, rfl, hpre,
      map_lowerHex_upperHex_format i, fun hd => ?_⟩
    rw [hup rfl] at hd
    cases hd

/-- **round trip**: the formatted text (plain or URN form) parses back to the same ID, whenever the
length limit allows it and the URN form is not disabled -/
theorem roundtrip (maxLen : Nat) (dURN dUpper : Bool) (i : ID) (urn : Bool)
    (hlen : maxLen = 0 ∨ (format [] i urn).length ≤ maxLen) (hurn : urn = true → dURN = false) :
    parse maxLen dURN dUpper (format [] i urn) = .ok i := by
  cases urn with
  | false =>
    have := roundtrip_cases maxLen dURN dUpper i [] false (Or.inl rfl) nofun (by rwa [format_length] at hlen)
    rwa [List.nil_append, if_neg Bool.false_ne_true] at this
  | true =>
    rw [format_urn] at hlen ⊢
    have := roundtrip_cases maxLen dURN dUpper i Gen.uu_URNPrefix false
      (Or.inr ⟨hurn rfl, 117, 114, 110, rfl, Or.inl rfl, Or.inl rfl, Or.inl rfl⟩) nofun
      (by rwa [List.length_append, format_length] at hlen)
    rwa [if_neg Bool.false_ne_true] at this

/-! ## rejections, each with its typed error -/

/-- over the limit (limit non-zero): `tooLong`, before anything else -/
theorem too_long (maxLen : Nat) (dURN dUpper : Bool) (s : Bytes) (h0 : maxLen ≠ 0) (h : s.length > maxLen) :
    parse maxLen dURN dUpper s = .err .tooLong := by
  rw [parse_eq, if_pos ⟨h0, h⟩]

/-- a length other than 36 or 45: `invalid` -/
theorem bad_length (maxLen : Nat) (dURN dUpper : Bool) (s : Bytes) (hlen : maxLen = 0 ∨ s.length ≤ maxLen)
    (h36 : s.length ≠ 36) (h45 : s.length ≠ 45) : parse maxLen dURN dUpper s = .err .invalid := by
  rw [parse_eq, if_neg (by omega), offsetOf, if_neg h36, if_neg h45]; rfl

/-- a 45-byte input when the rule disables the URN form: `urnDisabled` (whatever the bytes are) -/
theorem urn_disabled (maxLen : Nat) (dUpper : Bool) (s : Bytes) (hlen : maxLen = 0 ∨ s.length ≤ maxLen)
    (h45 : s.length = 45) : parse maxLen true dUpper s = .err .urnDisabled := by
  rw [parse_eq, if_neg (by omega), offsetOf, if_neg (by omega), if_pos h45, if_pos rfl]; rfl

/-- a 45-byte input whose first nine bytes are not an accepted prefix: `invalid` -/
theorem bad_prefix (maxLen : Nat) (dUpper : Bool) (s : Bytes) (hlen : maxLen = 0 ∨ s.length ≤ maxLen)
    (h45 : s.length = 45) (hp : ¬ URNCasing (s.take 9)) : parse maxLen false dUpper s = .err .invalid := by
  rw [parse_eq, if_neg (by omega), offsetOf, if_neg (by omega), if_pos h45, if_neg Bool.false_ne_true]
  rcases hasURNPrefix_spec s (by omega) with ⟨_, hc⟩ | ⟨h, _⟩
  · exact absurd hc hp
  · rw [h]; rfl

/-- a byte other than `-` at one of the four hyphen positions (after the offset): `invalid` -/
theorem bad_hyphen (maxLen : Nat) (dURN dUpper : Bool) (s : Bytes) (off : Nat)
    (hlen : maxLen = 0 ∨ s.length ≤ maxLen) (hf : Framed dURN s off) (p : Nat) (hp : p ∈ [8, 13, 18, 23])
    (hbad : s[off + p]? ≠ some 45) : parse maxLen dURN dUpper s = .err .invalid := by
  rw [parse_framed _ _ _ _ off hlen hf, core_eq s off _ (Nat.le_of_eq hf.length_eq), if_neg fun h => hbad (h p hp)]

/-- hyphens in place, and the first byte (in text order) at a digit position that is not an allowed hex
digit is `b`: `invalidDigit b` -/
theorem bad_digit (maxLen : Nat) (dURN dUpper : Bool) (s : Bytes) (off : Nat)
    (hlen : maxLen = 0 ∨ s.length ≤ maxLen) (hf : Framed dURN s off)
    (hyph : ∀ p, p ∈ [8, 13, 18, 23] → s[off + p]? = some 45) (k b : Nat) (hk : k < 32)
    (hgood : ∀ k', k' < k → ∃ c, s[off + pos k']? = some c ∧ HexByte dUpper c)
    (hb : s[off + pos k]? = some b) (hbad : ¬ HexByte dUpper b) :
    parse maxLen dURN dUpper s = .err (.invalidDigit b) := by
  -- the digits before `k` are good, the one at `k` is not
  have hnone : ∀ j, j < k → badAt s off (!dUpper) (pos j) = none := fun j hj => by
    obtain ⟨c, hc, hx⟩ := hgood j hj
    obtain ⟨v, hv⟩ := Option.ne_none_iff_exists'.mp fun hn => (parseDigit_eq_none_iff c dUpper).mp hn hx
    have := pos_lt j (by omega)
    exact (badAt_eq_none s off _ _ (by have := hf.length_eq; omega)).mpr ⟨v, (digitVal_eq_some _ _ _ _ _).mpr ⟨c, hc, hv⟩⟩
  have hsome : badAt s off (!dUpper) (pos k) = some b :=
    (badAt_eq_some _ _ _ _ _).mpr ⟨hb, (parseDigit_eq_none_iff b dUpper).mpr hbad⟩
  rw [parse_framed _ _ _ _ off hlen hf, core_eq s off _ (Nat.le_of_eq hf.length_eq),
    if_pos (show ∀ p, p ∈ Gen.uu_hyphens → _ from hyph), findSome?_range _ 32 k b hk hnone hsome]

/-- **no other outcome**: the parser never panics, and every error is one of the four typed errors, an
`invalidDigit b` naming a byte of the input that is not an allowed hex digit -/
theorem never_panic (maxLen : Nat) (dURN dUpper : Bool) (s : Bytes) : parse maxLen dURN dUpper s ≠ .panic :=
  (parse_ends maxLen dURN dUpper s).ne_panic

theorem error_classes (maxLen : Nat) (dURN dUpper : Bool) (s : Bytes) (e : Err)
    (h : parse maxLen dURN dUpper s = .err e) :
    e = .tooLong ∨ e = .invalid ∨ e = .urnDisabled ∨ ∃ b, e = .invalidDigit b ∧ b ∈ s ∧ ¬ HexByte dUpper b :=
  ((parse_ends maxLen dURN dUpper s).of_err h).imp_left And.left

/-! ## accessors -/

/-- **version** = the four bits RFC 4122 assigns: hex digit 12 (text position 14) -/
theorem version_field (i : ID) : i.version = nibble i 12 ∧ pos 12 = 14 := ⟨version_nibble i, rfl⟩

/-- **variant** = number of leading one bits (capped at 3) of hex digit 16 (text position 19):
`0xxx` ↦ 0, `10xx` ↦ 1 (RFC 4122), `110x` ↦ 2, `111x` ↦ 3 -/
theorem variant_field (i : ID) :
    i.variant = (if nibble i 16 < 8 then 0 else if nibble i 16 < 12 then 1 else if nibble i 16 < 14 then 2 else 3)
    ∧ pos 16 = 19 := ⟨variant_nibble i, rfl⟩

/-! ## non-vacuity (123e4567-e89b-12d3-a456-426614174000) -/

private def ex : ID := ⟨0x123e4567e89b12d3#64, 0xa456426614174000#64⟩
private def exText : Bytes :=
  [49,50,51,101,52,53,54,55,45,101,56,57,98,45,49,50,100,51,45,97,52,53,54,45,52,50,54,54,49,52,49,55,52,48,48,48]
private def exUpper : Bytes :=
  [49,50,51,69,52,53,54,55,45,69,56,57,66,45,49,50,68,51,45,65,52,53,54,45,52,50,54,54,49,52,49,55,52,48,48,48]

example : format [] ex false = exText := by decide +kernel
example : format [] ex true = [117,114,110,58,117,117,105,100,58] ++ exText := by decide +kernel
example : parse 45 false false exText = .ok ex := by decide +kernel
example : parse 45 false false exUpper = .ok ex := by decide +kernel
example : parse 45 false true exUpper = .err (.invalidDigit 69) := by decide +kernel
example : parse 45 false false ([85,82,78,58,117,117,105,100,58] ++ exText) = .ok ex := by decide +kernel   -- URN:uuid:
example : parse 45 false false ([117,114,110,58,85,85,73,68,58] ++ exText) = .err .invalid := by decide +kernel  -- urn:UUID:
example : parse 45 true false ([117,114,110,58,117,117,105,100,58] ++ exText) = .err .urnDisabled := by decide +kernel
example : parse 40 false false ([117,114,110,58,117,117,105,100,58] ++ exText) = .err .tooLong := by decide +kernel
example : parse 45 false false (exText.take 35) = .err .invalid := by decide +kernel
example : parse 45 false false (exText.set 8 48) = .err .invalid := by decide +kernel          -- `0` for the first hyphen
example : parse 45 false false (exText.set 9 103) = .err (.invalidDigit 103) := by decide +kernel   -- `g`
example : ex.version = 1 ∧ ex.variant = 1 := by decide +kernel
example : normalise ([85,82,78,58,117,117,105,100,58] ++ exUpper) = exText := by decide +kernel

/-- **tie to the source**: `parseDigit` as translated from `uu/parse.go` on this run is the model's digit decoder -/
theorem parseDigit_code_tie (c : Nat) (au : Bool) :
    UU.parseDigit c au = (if (Gen.uu_parseDigit c au).2 then some (Gen.uu_parseDigit c au).1 else none) :=
  CodeTies.parseDigit_tie c au

/-- **tie to the source**: `ID.Version` and `ID.Variant` as translated from `uu/id.go` on this run (masks and shifts
of the two words as naturals below 2^64) are the model's accessors -/
theorem accessors_code_tie (i : ID) :
    i.version = Gen.uu_Version i.hi.toNat i.lo.toNat ∧ i.variant = Gen.uu_Variant i.hi.toNat i.lo.toNat :=
  ⟨CodeTies.version_tie i, CodeTies.variant_tie i⟩

theorem paths_agree (i : ID) :
    marshalText i = format [] i false ∧ UU.toString i = format [] i false ∧
    formatVerb i 115 = format [] i false ∧ formatVerb i 118 = format [] i false ∧ formatVerb i 117 = format [] i true := by
  have e0 : isURN 0 = false := by decide
  have es : isURN (flagsByVerb 115) = false := by decide
  have ev : isURN (flagsByVerb 118) = false := by decide
  have eu : isURN (flagsByVerb 117) = true := by decide
  simp only [marshalText, UU.toString, formatVerb, e0, es, ev, eu, and_self]

end U.Props.C05
