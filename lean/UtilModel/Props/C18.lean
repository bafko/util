import UtilModel.Lemmas.DateText
import UtilModel.Lemmas.SizeObject
import UtilModel.Props.C03
import UtilModel.Props.C05
import UtilModel.Props.C09
import UtilModel.Props.C10
/-!
# C18 — Parsers are total and enforce the configured input limit first

*Totality.* Every Go index expression that is not guarded syntactically is modelled with `l[i]?`
and maps `none` to `Outcome.panic`; the theorems below show `panic` unreachable for the date and
sem parsers and `Date.unmarshalBinary` (roman: `C10.no_panic`, repeated below; uu: `C05.never_panic`; size:
`C12.no_panic`). All model
functions are total Lean functions, so termination of every loop (the JSON member loop and the
skip loop consume at least one token per iteration, the comparator recurses on shorter lists) is
checked by Lean's termination checker when the model is compiled.
*Limit.* For each package: the result is the input-too-long error **iff** the limit is non-zero and
the input is longer — so it is checked first, nothing within the limit is rejected for its length,
and limit 0 switches it off. That the error *message* does not reproduce the input, and allocation
behaviour, are checked on the implementation only.
-/
namespace U.Props.C18

/-! ## no panic -/

theorem date_no_panic (maxLen : Nat) (db : Bool) (s : Bytes) : Date.parse maxLen db s ≠ .panic :=
  (Date.parse_ends maxLen db s).ne_panic

theorem date_unbin_no_panic (bs : Bytes) : Date.unmarshalBinary bs ≠ .panic := by
  rw [Date.unmarshalBinary_eq]
  exact ite_ne nofun (ite_ne nofun (ite_ne nofun (ite_ne nofun nofun)))

theorem sem_no_panic (maxLen : Nat) (aV aT : Bool) (s : Bytes) : Sem.unmarshalText maxLen aV aT s ≠ .panic :=
  C03.never_panic maxLen aV aT s

theorem roman_no_panic (maxLen : Nat) (de : Bool) (s : Bytes) :
    Roman.parse maxLen de s ≠ .panic ∧ Roman.valid maxLen de s ≠ .panic := C10.no_panic maxLen de s

/-- the comparator never panics: it is a total function into the integers (its model has no partial
look-up at all; fix F5 removed the rune-slice indexing) -/
theorem sem_compare_total (a b : Bytes) : ∃ r : Int, Sem.comparePre a b = r := ⟨_, rfl⟩

/-! ## the input limit: checked first, only then, off at zero -/

theorem date_limit (maxLen : Nat) (db : Bool) (s : Bytes) :
    Date.parse maxLen db s = .err .tooLong ↔ maxLen ≠ 0 ∧ s.length > maxLen :=
  (Date.parse_ends maxLen db s).limit_iff (C09.too_long maxLen db s) (hE := by
    rintro (⟨_, h⟩ | h | h)
    · exact h
    · cases h
    · cases h)

theorem roman_limit (maxLen : Nat) (de : Bool) (s : Bytes) :
    Roman.parse maxLen de s = .err .tooLong ↔ maxLen ≠ 0 ∧ s.length > maxLen := by
  refine Outcome.limit_iff (fun h0 hl => (C10.too_long maxLen de s h0 hl).1) fun hlen h => ?_
  have := (C10.rejected_invalid maxLen de s hlen (fun ⟨n, hn⟩ => by rw [hn] at h; cases h)).1
  rw [this] at h; cases h

theorem roman_valid_limit (maxLen : Nat) (de : Bool) (s : Bytes) :
    Roman.valid maxLen de s = .err .tooLong ↔ maxLen ≠ 0 ∧ s.length > maxLen := by
  refine Outcome.limit_iff (fun h0 hl => (C10.too_long maxLen de s h0 hl).2) fun hlen h => ?_
  have := (C10.rejected_invalid maxLen de s hlen fun hn => by
    rw [(C10.valid_iff_parse maxLen de s).mpr hn] at h; cases h).2
  rw [this] at h; cases h

theorem sem_limit (maxLen : Nat) (aV aT : Bool) (s : Bytes) :
    Sem.unmarshalText maxLen aV aT s = .err .tooLong ↔ maxLen ≠ 0 ∧ s.length > maxLen :=
  (Sem.unmarshalText_ends maxLen aV aT s).limit_iff (C03.too_long maxLen aV aT s) (hE := by
    rintro (h | ⟨_, h⟩ | h | h | h | h | h)
    · cases h
    · exact h
    all_goals cases h)

theorem uu_limit_first (maxLen : Nat) (dU dC : Bool) (s : Bytes) (h0 : maxLen ≠ 0) (hl : s.length > maxLen) :
    UU.parse maxLen dU dC s = .err .tooLong := C05.too_long maxLen dU dC s h0 hl

theorem size_limit (maxLen maxKeys : Nat) (r : Size.Rule) (s : Bytes) :
    Size.parse maxLen maxKeys r s = .err .tooLong ↔ maxLen ≠ 0 ∧ s.length > maxLen :=
  (SizeObject.parse_ends maxLen maxKeys r s).limit_iff (fun h => h rfl) fun h0 hl => by
    unfold Size.parse
    rw [if_pos ⟨h0, hl⟩]

theorem uu_limit (maxLen : Nat) (dU dC : Bool) (s : Bytes) :
    UU.parse maxLen dU dC s = .err .tooLong ↔ maxLen ≠ 0 ∧ s.length > maxLen :=
  (UU.parse_ends maxLen dU dC s).limit_iff (uu_limit_first maxLen dU dC s) (hE := by
    rintro (⟨_, h⟩ | h | h | ⟨_, h, _⟩)
    · exact h
    · cases h
    · cases h
    · cases h)

/-- limit 0 removes the limit, in every package -/
theorem limit_zero_off (s : Bytes) :
    (∀ db, Date.parse 0 db s ≠ .err .tooLong) ∧ (∀ de, Roman.parse 0 de s ≠ .err .tooLong) ∧
    (∀ aV aT, Sem.unmarshalText 0 aV aT s ≠ .err .tooLong) ∧ (∀ dU dC, UU.parse 0 dU dC s ≠ .err .tooLong) ∧
    (∀ mk r, Size.parse 0 mk r s ≠ .err .tooLong) := by
  refine ⟨?_, ?_, ?_, ?_, ?_⟩
  · intro db h; exact ((date_limit 0 db s).mp h).1 rfl
  · intro de h; exact ((roman_limit 0 de s).mp h).1 rfl
  · intro aV aT h; exact ((sem_limit 0 aV aT s).mp h).1 rfl
  · intro dU dC h; exact ((uu_limit 0 dU dC s).mp h).1 rfl
  · intro mk r h; exact ((size_limit 0 mk r s).mp h).1 rfl

/-- **the guard in the source** (structure facts regenerated from the library's source on this run,
`tools/extract/structure.go`): in each package the function every public parser entry point funnels its input
through (`DefaultParser`; `sem`: `unmarshalText`, reached directly by `DefaultParser`, `Parse`, `ParseVersion`,
`ParseTag`; `roman`: `checkInputLength`, called first by `DefaultParser` and by `Valid`) begins — after constant
declarations, taking the input's length and returning on the empty input — with
`if MaxInputLength != 0 && len(input) > MaxInputLength { return … ErrInputTooLong … }` (operands in either order,
`a > b` or `b < a`, the length bound in the `if`'s init or before it, or the two tests as nested `if`s), whose body
does not read the input. -/
theorem limit_guard_source_facts :
    Gen.date_limitCheckedFirst = true ∧ Gen.roman_limitCheckedFirst = true ∧ Gen.roman_Valid_limitCheckedFirst = true ∧
    Gen.sem_limitCheckedFirst = true ∧ Gen.size_limitCheckedFirst = true ∧ Gen.uu_limitCheckedFirst = true := by decide

example : Date.parse 10 false (List.replicate 11 48) = .err .tooLong := by decide +kernel
example : Sem.unmarshalText 4 true true [49, 46, 48, 46, 48] = .err .tooLong := by decide +kernel
example : Sem.unmarshalText 0 true true [49, 46, 48, 46, 48] = .ok ⟨1, 0, 0, [], []⟩ := by decide +kernel

end U.Props.C18
