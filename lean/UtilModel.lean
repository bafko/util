import UtilModel.Model.Prelude
import UtilModel.Model.GoTime
import UtilModel.Model.GoJson
import UtilModel.Model.Date
import UtilModel.Model.Roman
import UtilModel.Model.Sem
import UtilModel.Model.Size
import UtilModel.Model.UU
import UtilModel.Model.TestKit
import UtilModel.Model.Hist
import UtilModel.Model.LockProto
import UtilModel.Model.Extra
import UtilModel.Spec.SemVerBNF
import UtilModel.Spec.SemVerOrder
import UtilModel.Spec.SizeText
import UtilModel.Spec.SizeJson
import UtilModel.Spec.TestOracle
import UtilModel.Lemmas.Dec
import UtilModel.Lemmas.Outcome
import UtilModel.Lemmas.Hex
import UtilModel.Lemmas.Calendar
import UtilModel.Lemmas.DateBasics
import UtilModel.Lemmas.DateText
import UtilModel.Lemmas.Roman
import UtilModel.Lemmas.SemOrder
import UtilModel.Lemmas.SemNumeric
import UtilModel.Lemmas.SemSpec
import UtilModel.Lemmas.SemText
import UtilModel.Lemmas.SizeFormat
import UtilModel.Lemmas.SizeArith
import UtilModel.Lemmas.SizeRoundTrip
import UtilModel.Lemmas.JsonTokens
import UtilModel.Lemmas.JsonText
import UtilModel.Lemmas.SizeEnds
import UtilModel.Lemmas.SizeObject
import UtilModel.Lemmas.SizeMembers
import UtilModel.Lemmas.SizeRender
import UtilModel.Lemmas.UU
import UtilModel.Lemmas.UUText
import UtilModel.Lemmas.UURandom
import UtilModel.Lemmas.LockProto
import UtilModel.Lemmas.TestKit
import UtilModel.Lemmas.TieTactics
import UtilModel.Lemmas.CodeTiesDate
import UtilModel.Lemmas.CodeTiesRoman
import UtilModel.Lemmas.CodeTiesSem
import UtilModel.Lemmas.CodeTiesUU
import UtilModel.Lemmas.CodeTiesTest
import UtilModel.Lemmas.Extra
import UtilModel.Props.C01
import UtilModel.Props.C02
import UtilModel.Props.C03
import UtilModel.Props.C04
import UtilModel.Props.C05
import UtilModel.Props.C06
import UtilModel.Props.C07
import UtilModel.Props.C08
import UtilModel.Props.C09
import UtilModel.Props.C10
import UtilModel.Props.C11
import UtilModel.Props.C12
import UtilModel.Props.C13
import UtilModel.Props.C14
import UtilModel.Props.C15
import UtilModel.Props.C16
import UtilModel.Props.C17
import UtilModel.Props.C18
import UtilModel.Props.C19
import UtilModel.Props.C20
import UtilModel.Props.EXTRA
